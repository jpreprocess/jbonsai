/-
  C04 — a loaded voice is exactly what the file says.

  Theorems about the voice-file model: wildcard matching is the declarative `Matches` relation
  (`*` any string, `?` any one character); a question holds iff one of its patterns matches; a
  single-leaf tree selects its PDF for every label; the index form the loader builds (`convert_tree`,
  walked by `search_node`) returns exactly what walking the file's own tree by node id returns — "no" to
  the first child, "yes" to the second — on every well-formed tree; `from_linear` lays out means |
  variances | voicing weight; `Condition.default.loadModel` stores the sampling rate, frame period and spectrum options it
  is given, whatever they are (`load_defaults`, from C20 `fresh_defaults`) — how `Engine::load` reads `GAMMA=`, `LN_GAIN=`
  and `ALPHA=` from the header (`Synth.headerOptions` in the model) is in no theorem.
  From an accepted file: what selection returns is entry `id − 1` of the PDF list of the tree for the state, with the
  announced layout (`selection_is_indexed`, `selected_gaussian_shape`), and an accepted well-formed tree selects a PDF for
  every label (`accepted_tree_total`).  Read-back (`Jb/Proofs/RoundTrip.lean`): words, PDFs, the PDF block, window rows,
  header numbers and byte ranges written by a writer are read back exactly (`*_read_back`).
  The byte-level grammar of the reader is tied to the loader by parsing the same files in both and
  comparing metadata, options, windows, and — for every label and state — tree index, PDF index and every
  float32 entry bit for bit (widening f32→f64 is exact in IEEE and is done by the driver).
-/
import Jb.Props.C20
import Jb.Proofs.ParseShape
import Jb.Proofs.RoundTrip

namespace Jb.C04
open Hts

theorem glob_is_matches (p s : List Char) : glob p s = true ↔ Matches p s := glob_correct p s

theorem question_holds_iff (pats : List (List Char)) (label : List Char) :
    questionTest pats label = true ↔ ∃ p ∈ pats, Matches p label := by
  simp [questionTest, List.any_eq_true, glob_correct]

theorem single_leaf_tree (qs : Questions) (st : Nat) (id : Int) (q : String) (k : Nat) (label : List Char) :
    evalTree qs ⟨st, [⟨id, q, .pdf k, .pdf k⟩]⟩ label = some k := single_leaf qs st id q k label

theorem index_form_refines_file_tree (qs : Questions) (t : FileTree) (st : Nat) (nodes : List TNode)
    (hwf : TreeWF t) (hne : t.rows ≠ [])
    (hnot : ¬ (t.rows.length = 1 ∧ ∃ r, t.rows = [r] ∧ r.yes = r.no))
    (hc : convertTree true qs t = .ok (st, nodes)) (label : List Char) :
    searchNode nodes label (t.rows.length + 2) 0 = evalTree qs t label ∧
    ∃ k, evalTree qs t label = some k :=
  search_refines_eval qs t st nodes hwf hne hnot hc label

theorem pdf_layout (lin : List UInt32) (i : Nat) (hi : i < lin.length / 2) :
    (fromLinear lin).means[i]? = lin[i]? ∧ (fromLinear lin).varis[i]? = lin[i + lin.length / 2]? ∧
    (fromLinear lin).msd = lin[lin.length / 2 * 2]? ∧
    (fromLinear lin).means.length = lin.length / 2 ∧ (fromLinear lin).varis.length = lin.length / 2 :=
  fromLinear_layout lin i hi

/-- yes → second child, no → first child, in the specification walk (one step) -/
theorem yes_second_no_first (qs : Questions) (rows : List Row) (label : List Char) (fuel : Nat) (id : Int)
    (r : Row) (pats : List (List Char)) (hr : findRow rows id = some r) (hq : lookupQ qs r.qname = some pats) :
    evalChild qs rows label (fuel + 1) (.node id) =
      evalChild qs rows label fuel (if questionTest pats label then r.yes else r.no) := by
  simp [evalChild, hr, hq]

/-- `load_model` stores its arguments, for arbitrary arguments (reading them from the header is not part of the statement) -/
theorem load_defaults {K : Type} [Field K] [LinearOrder K] [IsStrictOrderedRing K] [Transc K] [Consts K]
    (sr fp n : Nat) (st : Option Nat) (lg : Option Bool) (a : Option K) :
    let c := (Condition.default : Condition K).loadModel sr fp n st lg a
    c.samplingFrequency = sr ∧ c.fperiod = fp ∧ c.stage = st.getD 0 ∧ c.useLogGain = lg.getD false ∧ c.alpha = a.getD 0 := by
  -- the last five of the twelve fields `fresh_defaults` lists
  obtain ⟨-, -, -, -, -, -, -, h⟩ := Jb.C20.fresh_defaults sr fp n st lg a
  exact h

/-- non-vacuity: `*b` matches `ab`, and `?` does not match the empty string -/
example : glob ['*', 'b'] ['a', 'b'] = true :=
  (glob_correct _ _).mpr (.star_eat (.star_skip (.lit (by decide) (by decide) .nil)))
example : glob ['?'] [] = false := by
  cases h : glob ['?'] [] with
  | false => rfl
  | true => exact nomatch (glob_correct _ _).mp h

/-- every Gaussian that selection can ever hand to synthesis from a loaded voice has the announced layout: `NUM_STATES`
    entries for durations, `VECTOR_LENGTH × NUM_WINDOWS` (+ voicing weight iff MSD) for a stream, `VECTOR_LENGTH` for GV -/
theorem selected_gaussian_shape (bytes : List Nat) (v : ParsedVoice) (h : parseVoice true bytes = .ok v)
    (k : Nat) (label : List Char) (ti id : Nat) (p : PdfBits) :
    (getParameter v.duration k label = some (ti, id, p) →
      p.means.length = v.global.nstates ∧ p.varis.length = v.global.nstates ∧ p.msd = none) ∧
    (∀ s ∈ v.streams, getParameter s.model k label = some (ti, id, p) →
      p.means.length = s.info.veclen * s.info.nwin ∧ p.varis.length = s.info.veclen * s.info.nwin ∧
      p.msd.isSome = s.info.isMsd) ∧
    (∀ s ∈ v.streams, ∀ g, s.gv = some g → getParameter g k label = some (ti, id, p) →
      p.means.length = s.info.veclen ∧ p.varis.length = s.info.veclen ∧ p.msd = none) :=
  selected_shape bytes v h k label ti id p

/-- selection returns entry `id − 1` of the PDF list of the tree whose declared state is the requested one -/
theorem selection_is_indexed (m : FileModel) (k : Nat) (label : List Char) (ti id : Nat) (p : PdfBits)
    (h : getParameter m k label = some (ti, id, p)) :
    2 ≤ ti ∧ 1 ≤ id ∧ ∃ t ps, m.trees[ti - 2]? = some t ∧ t.state = k ∧ evalTree m.questions t label = some id ∧
      m.pdfs[ti - 2]? = some ps ∧ ps[id - 1]? = some p :=
  getParameter_index m k label ti id p h

/-- on an accepted, acyclic, non-empty tree the walk ends in a PDF id for every label -/
theorem accepted_tree_total (qs : Questions) (t : FileTree) (hwf : TreeWF t) (hne : t.rows ≠ [])
    (r : Nat × List TNode) (hc : convertTree true qs t = .ok r) (label : List Char) :
    ∃ k, evalTree qs t label = some k :=
  evalTree_total_of_wf qs t hwf hne r hc label

/-! ### read-back: the reader returns exactly what a writer wrote (`Jb/Proofs/RoundTrip.lean`) -/

/-- a little-endian word is read back bit for bit -/
theorem word_read_back (w : UInt32) : u32le (u32bytes w) = w := u32le_u32bytes w

/-- **the float32 entries of a PDF are read back bit for bit**: means | variances | optional voicing weight, for every PDF
    with as many variances as means -/
theorem pdf_read_back (p : PdfBits) (h : p.means.length = p.varis.length) : fromLinear (linearOf p) = p :=
  fromLinear_linearOf p h

/-- **the whole PDF block** (per-tree counts, then every PDF of every tree) written for `n` coefficients per PDF, with or
    without a voicing weight, is read back exactly — any number of trees, any number of PDFs per tree (< 2³²) -/
theorem pdf_block_read_back (pdfs : List (List PdfBits)) (n : Nat) (msd : Bool)
    (hshape : ∀ ps ∈ pdfs, ∀ p ∈ ps, p.means.length = n ∧ p.varis.length = n ∧ p.msd.isSome = msd)
    (hcount : ∀ ps ∈ pdfs, ps.length < 2 ^ 32) :
    parsePdfBlock (pdfBlockBytes pdfs) pdfs.length (2 * n + (if msd then 1 else 0)) = some pdfs :=
  parsePdfBlock_pdfBlockBytes pdfs n msd hshape hcount

/-- a window row `count c₁ … c_count` is read back as the coefficient texts written -/
theorem window_row_read_back (cs : List String) (h : ∀ c ∈ cs, isDoubleText (bytesOf c) = true) (hn : cs.length < 2 ^ 64) :
    parseWindow (windowRowBytes cs) = some cs :=
  parseWindow_windowRowBytes cs h hn

/-- a header number is read back (within the reader's 64-bit guard) -/
theorem header_number_read_back (guarded strict : Bool) (n : Nat) (h : n < 2 ^ 64) :
    headerNat guarded strict (natBytes n) = .ok n := headerNat_natBytes guarded strict n h

/-- an `a-b` byte range is read back -/
theorem header_range_read_back (guarded : Bool) (a b : Nat) (ha : a < 2 ^ 64) (hb : b < 2 ^ 64) :
    headerPair guarded (natBytes a ++ 45 :: natBytes b) = .ok (a, b) := headerPair_natBytes guarded a b ha hb

end Jb.C04
