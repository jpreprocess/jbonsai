/-
  C02 for the whole library: `history_refines` and `oneshot_is_render` of `Jb/Props/C02.lean` applied to the generator
  `Engine::generator` builds from the voice files (`Synth.generator`; on the stage inputs `Engine::synthesize` is that
  generator followed by `generate_all`: `Synth.engineSynthesize_eq_generator`, `Jb/Proofs/SynthBridge.lean`).
-/
import Jb.Proofs.SynthBridge
import Jb.Props.C02

namespace Jb.C02

/-- **C02 from the voice files.** Whenever `Engine::generator` returns a generator `g` (any voice set, weights, setter
    history, labels — no well-formedness needed beyond that), one-shot synthesis returns a waveform `w` of
    `frame_period × frames` samples, and **every** history of `generate_step` (any buffer), `synthesized_frames` and
    `generate_all` calls on `g` yields exactly the observations of the specification machine "cursor into `w`". -/
theorem library_history_refines {K : Type} [Field K] [LinearOrder K] [IsStrictOrderedRing K] [FloorRing K]
    [Transc K] [Consts K] [MlpgConsts K] [FromFile K] (fx : Fix) (big : K) (voices : List Hts.ParsedVoice) (iw : IW K)
    (ops : List (CondOp K)) (f : Condition K → Bool) (labels : List (List Char)) (times : List (K × K))
    (g : Gen (VocoderSt K) (List K × List K × List K))
    (hg : Synth.generator big voices iw ops f labels times = .ok g) :
    ∃ w, Synth.synthesize fx big voices iw ops f labels times = .ok w ∧ w.length = g.fperiod * g.frames.length ∧
      ∀ hist : List (GenOp × List K),
        runOps (vocoderFrame fx g.fperiod) true g hist = specOps w g.fperiod g.frames.length 0 hist := by
  rw [Synth.generator_eq] at hg
  obtain ⟨v0, inp, hv0, hin, hg⟩ := Synth.withInputs_eq_ok hg
  obtain ⟨p, -, -, rfl⟩ := Synth.engineGenerator_ok hg
  have hlen := fun v fr => vocoderFrame_length (K := K) fx (Synth.condOf v0 ops).fperiod v fr
  refine ⟨_, ?_, by rw [Gen.render_length _ _ hlen, Nat.mul_comm], history_refines _ _ _ _ hlen⟩
  rw [Synth.synthesize_eq, Synth.withInputs_of_ok hv0 hin, Synth.engineSynthesize_eq_generator, hg]
  exact oneshot_is_render _ _ _ _ hlen

/-- on a well-formed voice set the generator exists, starts at frame 0 and has the frame period the history leaves -/
theorem library_generator_exists {K : Type} [Field K] [LinearOrder K] [IsStrictOrderedRing K] [FloorRing K]
    [Transc K] [Consts K] [MlpgConsts K] [FromFile K] (big : K) (voices : List Hts.ParsedVoice) (iw : IW K)
    (h : Synth.VoicesWF voices iw) (v0 : Hts.ParsedVoice) (hv0 : voices.head? = some v0) (ops : List (CondOp K))
    (f : Condition K → Bool) (labels : List (List Char)) (times : List (K × K))
    (halign : (Synth.condOf (K := K) v0 ops).alignment = true → times.length = labels.length) :
    ∃ g, Synth.generator big voices iw ops f labels times = .ok g ∧ g.next = 0 ∧
      g.fperiod = (Synth.condOf (K := K) v0 ops).fperiod := by
  obtain ⟨inp, hin, hwf, -⟩ := Synth.engineIn_total big voices iw h v0 hv0 ops labels times halign
  obtain ⟨p, hp, -, -, -, -, -, -, hchk⟩ := engineParams_total (Synth.condOf v0 ops) (f (Synth.condOf v0 ops)) inp hwf
  rw [Synth.generator_eq, Synth.withInputs_of_ok hv0 hin]
  exact ⟨_, Synth.engineGenerator_of_params hp hchk, rfl, rfl⟩

end Jb.C02
