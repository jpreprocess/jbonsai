/-
  C08 — speaking rate scales the utterance, never below one frame per state.

  Model: `Jb/Model/Duration.lean` (`durationCreate`, `estimateWithFrameLength`, `greedyLoop`).
  Scalars: any linearly ordered field with a floor (`roundMax1 x = max 1 ⌊x + 1/2⌋₊`).
-/
import Jb.Proofs.Total
import Mathlib.Data.Rat.Floor
import Mathlib.Tactic.NormNum

namespace Jb.C08

variable {K : Type} [Field K] [LinearOrder K] [IsStrictOrderedRing K] [FloorRing K]

/-- total frames at speed 1 -/
def F1 (ps : List (MeanVari K)) : Nat := (estimateDuration ps 0).sum

/-- At speed 1 every state lasts `round(mean)` frames but at least 1. -/
theorem create_one (ps : List (MeanVari K)) :
    durationCreate ps 1 true = .ok (ps.map fun p => max 1 ⌊p.mean + 1 / 2⌋₊) :=
  (durationCreate_true ps 1).trans (congrArg _ (estimateDuration_zero ps))

/-- `create` never panics (the `unwrap()` on an empty `min_by` is unreachable) and the fuel
    `|target − sum|` given to the greedy loop always suffices: it returns a vector. -/
theorem create_total_fn (ps : List (MeanVari K)) (s : K) (b : Bool) :
    ∃ d, durationCreate ps s b = .ok d :=
  let ⟨d, h, _⟩ := durationCreate_spec ps s b; ⟨d, h⟩

/-- One duration per state, each at least one frame, at every speed. -/
theorem create_shape (ps : List (MeanVari K)) (s : K) (b : Bool) (d : List Nat)
    (h : durationCreate ps s b = .ok d) : d.length = ps.length ∧ ∀ x ∈ d, 1 ≤ x :=
  ⟨(durationCreate_ok_spec h).1, (durationCreate_ok_spec h).2.1⟩

/-- At any other speed the total is `max(round(F1/s), number of states)`. -/
theorem create_total (ps : List (MeanVari K)) (s : K) (d : List Nat) (hne : ps ≠ [])
    (h : durationCreate ps s false = .ok d) :
    d.sum = max (RoundNat.roundMax1 ((F1 ps : K) / s)) ps.length :=
  (durationCreate_ok_spec h).2.2 rfl hne

theorem create_empty (s : K) (b : Bool) : durationCreate ([] : List (MeanVari K)) s b = .ok [] :=
  let ⟨_, h, hl, _⟩ := durationCreate_spec ([] : List (MeanVari K)) s b
  List.length_eq_zero_iff.mp hl ▸ h

/-- Total length is non-increasing in the speed, both speeds ≠ 1 (the flag is false on both sides). -/
theorem create_antitone (ps : List (MeanVari K)) (s s' : K) (d d' : List Nat) (hne : ps ≠ [])
    (hs : 0 < s) (hss : s ≤ s') (h : durationCreate ps s false = .ok d)
    (h' : durationCreate ps s' false = .ok d') : d'.sum ≤ d.sum := by
  rw [create_total ps s d hne h, create_total ps s' d' hne h']
  apply max_le_max _ le_rfl
  apply roundMax1_mono
  exact div_le_div_of_nonneg_left (Nat.cast_nonneg _) hs hss

/-! Non-vacuity: a concrete 3-state model over ℚ at speed 1 (flag `true`): every state lasts its rounded mean,
    12 frames in all. -/
example : durationCreate ([⟨2, 1⟩, ⟨4, 1⟩, ⟨6, 2⟩] : List (MeanVari ℚ)) 1 true = .ok [2, 4, 6] := by
  rw [create_one]; norm_num [Nat.floor_eq_iff]

/-- **Speaking rate scales the utterance** — for the whole pipeline model: at speed `s ≠ 1` (no alignment) synthesis
    returns exactly `frame_period × max(round(F1/s), number of states)` samples, `F1` the speed-1 frame count. -/
theorem synthesize_length_at_speed [Transc K] [Consts K] [MlpgConsts K] (fx : Fix) (c : Condition K) (inp : EngineIn K)
    (hwf : EngineWF c inp) (halign : c.alignment = false) (hne : inp.duration ≠ []) :
    ∃ w, engineSynthesize fx c false inp = .ok w ∧
      w.length = c.fperiod * max (RoundNat.roundMax1 ((F1 inp.duration : K) / c.speed)) inp.duration.length := by
  obtain ⟨durs, w, h1, _, _, h4, h5⟩ := engineSynthesize_total fx c inp hwf false
  refine ⟨w, h4, ?_⟩
  rw [engineDurations_speed halign] at h1
  rw [h5, create_total inp.duration c.speed durs hne h1]

end Jb.C08
