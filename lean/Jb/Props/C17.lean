/-
  C17 — all label input forms agree; bad label text is an error.

  Model: `Jb/Model/Label.lean` (`splitn3`, `loadLine`, `loadLines`) with `str::parse::<f64>` and
  `jlabel::Label::from_str` as parameters, and `engineDurations` for the use of time stamps.
-/
import Jb.Proofs.SynthBridge

namespace Jb.C17

variable {α L : Type} [Mul α] [Neg α] [OfNat α 1]

/-- `splitn(3, ' ')` always yields one, two or three pieces: the `expect` in the code is unreachable. -/
theorem splitn3_pieces (line : List Nat) :
    (∃ a, splitn3 line = [a]) ∨ (∃ a b, splitn3 line = [a, b]) ∨ (∃ a b c, splitn3 line = [a, b, c]) := by
  unfold splitn3
  rcases h1 : splitFirst line with ⟨a, _ | rest⟩
  · exact Or.inl ⟨a, by simp⟩
  · rcases h2 : splitFirst rest with ⟨b, _ | rest2⟩
    · exact Or.inr (Or.inl ⟨a, b, by simp [h2]⟩)
    · exact Or.inr (Or.inr ⟨a, b, rest2, by simp [h2]⟩)

/-- Loading is a total function into `ok | error`: there is no panic outcome at all (the result type
    is `Except`), whatever the two external parsers answer. -/
theorem load_total (parseF : List Nat → Option α) (parseL : List Nat → Option L) (rate : α)
    (lines : List (List Nat)) :
    (∃ xs, loadLines parseF parseL rate lines = .ok xs) ∨ (∃ e, loadLines parseF parseL rate lines = .error e) := by
  cases h : loadLines parseF parseL rate lines with
  | ok xs => exact Or.inl ⟨xs, rfl⟩
  | error e => exact Or.inr ⟨e, rfl⟩

/-- Blank lines are ignored, wherever they are. -/
theorem blank_line_ignored (parseF : List Nat → Option α) (parseL : List Nat → Option L) (rate : α)
    (pre post : List (List Nat)) :
    loadLines parseF parseL rate (pre ++ [] :: post) = loadLines parseF parseL rate (pre ++ post) := by
  rw [← loadLines_filter_blank _ _ _ (pre ++ [] :: post), ← loadLines_filter_blank _ _ _ (pre ++ post),
    List.filter_append, List.filter_append, List.filter_cons_of_neg (by simp)]

/-- The error cases of one line, in the code's order. -/
theorem line_one_token (parseF : List Nat → Option α) (parseL : List Nat → Option L) (rate : α)
    (line first : List Nat) (h : splitn3 line = [first]) (hne : first ≠ []) :
    loadLine parseF parseL rate line =
      match parseL first with | some l => .ok (some (l, (-1, -1))) | none => .error .jlabelParse := by
  unfold loadLine; rw [h]
  simp only [List.isEmpty_eq_false_iff.mpr hne, Bool.false_eq_true, if_false]
  cases parseL first <;> rfl

theorem line_two_tokens (parseF : List Nat → Option α) (parseL : List Nat → Option L) (rate : α)
    (line a b : List Nat) (h : splitn3 line = [a, b]) :
    loadLine parseF parseL rate line = .error .missingLabel := by
  unfold loadLine; rw [h]

theorem line_three_tokens (parseF : List Nat → Option α) (parseL : List Nat → Option L) (rate : α)
    (line a b c : List Nat) (h : splitn3 line = [a, b, c]) :
    loadLine parseF parseL rate line =
      match parseF a with
      | none => .error .floatParse
      | some s => match parseF b with
        | none => .error .floatParse
        | some e => match parseL c with
          | none => .error .jlabelParse
          | some l => .ok (some (l, (s * rate, e * rate))) := by
  unfold loadLine; rw [h]
  cases ha : parseF a <;> cases hb : parseF b <;> cases hc : parseL c <;> simp [ha, hb, hc]

theorem no_space_one_token (line : List Nat) (h : ∀ c ∈ line, c ≠ 32) : splitn3 line = [line] := by
  unfold splitn3; rw [splitFirst_of_no_space line h]

/-- **Forms agree.** Label strings without time stamps load as the parsed labels with every time
    unknown — which is what the already-parsed-labels form (`Vec<Label>`) produces. -/
theorem strings_eq_parsed (parseF : List Nat → Option α) (parseL : List Nat → Option L) (rate : α)
    (lines : List (List Nat)) (labels : List L)
    (hsp : ∀ l ∈ lines, (∀ c ∈ l, c ≠ 32) ∧ l ≠ [])
    (hparse : lines.map parseL = labels.map some) :
    loadLines parseF parseL rate lines = .ok (labels.map fun l => (l, ((-1 : α), (-1 : α)))) := by
  induction lines generalizing labels with
  | nil =>
    cases labels with
    | nil => rfl
    | cons _ _ => simp at hparse
  | cons l ls ih =>
    cases labels with
    | nil => simp at hparse
    | cons lab labs =>
      simp only [List.map_cons, List.cons.injEq] at hparse
      have hl := hsp l (by simp)
      have := line_one_token parseF parseL rate l l (no_space_one_token l hl.1) hl.2
      rw [hparse.1] at this
      simp only [loadLines, this]
      rw [ih labs (fun x hx => hsp x (by simp [hx])) hparse.2]
      rfl

/-- **Without alignment the time stamps have no effect on the state durations** (`engineDurations`; nothing is stated
    here about the later stages). -/
theorem times_unused_without_alignment {K : Type} [Add K] [Sub K] [Mul K] [Div K] [Neg K] [OfNat K 0] [OfNat K 1]
    [NatCast K] [LT K] [DecidableLT K] [LE K] [DecidableLE K] [RoundNat K]
    (c : Condition K) (b : Bool) (inp : EngineIn K) (times' : List (K × K)) (h : c.alignment = false) :
    engineDurations c b { inp with times := times' } = engineDurations c b inp :=
  (engineDurations_speed h b _).trans (engineDurations_speed h b inp).symm

/-! non-vacuity: three lines — a timed label, a blank line, a plain label — over a toy label type -/
example : loadLines (α := Int) (L := Nat)
    (fun t => if t = [49] then some 1 else if t = [50] then some 2 else none)
    (fun t => if t = [97] then some 7 else none) 10
    [[49, 32, 50, 32, 97], [], [97]] = .ok [(7, (10, 20)), (7, (-1, -1))] := by
  decide

example : loadLines (α := Int) (L := Nat) (fun _ => some 1) (fun _ => some 7) 10 [[49, 32, 50]] = .error .missingLabel := by
  decide

/-! ### for the whole library (`Jb/Proofs/SynthBridge.lean`) -/

/-- **C17 from the voice files: blank lines do not matter.** Loading label lines, filling the time gaps and synthesizing
    gives the same outcome with all blank lines removed — for every voice set, weights, setter history, float / label
    parsers and rate. -/
theorem library_blank_lines_ignored {K : Type} [Field K] [LinearOrder K] [IsStrictOrderedRing K] [FloorRing K]
    [Transc K] [Consts K] [MlpgConsts K] [FromFile K] (fx : Fix) (big : K)
    (voices : List Hts.ParsedVoice) (iw : IW K) (ops : List (CondOp K)) (f : Condition K → Bool)
    (parseF : List Nat → Option K) (parseL : List Nat → Option (List Char)) (rate : K) (lines : List (List Nat)) :
    Synth.synthesizeLines fx big voices iw ops f parseF parseL rate (lines.filter (· ≠ [])) =
      Synth.synthesizeLines fx big voices iw ops f parseF parseL rate lines := by
  unfold Synth.synthesizeLines
  rw [loadLines_filter_blank]

end Jb.C17
