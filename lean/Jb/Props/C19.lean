/-
  C19 — voice sets and interpolation weights are validated.
  Model: `Jb/Model/Weights.lean` (`voiceSetNew`, `weightsNew`, `IW.set*`, `applyIWHistory`).
-/
import Jb.Proofs.SynthBridge

set_option linter.unusedSectionVars false

namespace Jb.C19

variable {K : Type} [Field K] [LinearOrder K] [IsStrictOrderedRing K]
variable {G S : Type} [DecidableEq G] [DecidableEq S]

/-- Voices can be combined iff the list is non-empty and every voice has the first one's global and
    per-stream metadata. -/
theorem new_ok_iff (vs : List (G × List S)) :
    voiceSetNew vs = .ok () ↔ ∃ f rest, vs = f :: rest ∧ ∀ v ∈ rest, v = f := by
  cases vs with
  | nil => exact ⟨(fun e => nomatch e), fun ⟨_, _, e, _⟩ => nomatch e⟩
  | cons first rest =>
    rw [voiceSetNew_cons]
    split_ifs with h
    · exact ⟨fun _ => ⟨first, rest, rfl, h⟩, fun _ => rfl⟩
    · exact ⟨(fun e => nomatch e), fun ⟨_, _, e, h'⟩ => by cases e; exact absurd h' h⟩

theorem new_empty : voiceSetNew ([] : List (G × List S)) = .error .emptyVoice := rfl

/-- a voice that differs from the first is the metadata error (with `new_ok_iff`: the only failure on a non-empty
    list) -/
theorem new_mismatch (f : G × List S) (rest : List (G × List S)) (h : ∃ v ∈ rest, v ≠ f) :
    voiceSetNew (f :: rest) = .error .metadataError := by
  obtain ⟨v, hv, hne⟩ := h
  rw [voiceSetNew_cons, if_neg fun hall => hne (hall v hv)]

/-- A weight update is accepted iff the weights sum to 1 (within `eps`) and there is one per voice. -/
theorem set_duration_ok_iff (eps : K) (iw : IW K) (w : List K) :
    (∃ s, iw.setDuration eps w = .ok s) ↔ (|w.sum - 1| ≤ eps ∧ w.length = iw.nvoices) := by
  simp only [IW.setDuration_ok_iff, exists_and_left, exists_eq', and_true]

theorem set_parameter_ok_iff (eps : K) (iw : IW K) (i : Nat) (w : List K) (hi : i < iw.parameter.length) :
    (∃ s, iw.setParameter eps i w = .ok s) ↔ (|w.sum - 1| ≤ eps ∧ w.length = iw.nvoices) := by
  simp only [IW.setParameter_ok_iff, hi, true_and, exists_and_left, exists_eq', and_true]

theorem set_gv_ok_iff (eps : K) (iw : IW K) (i : Nat) (w : List K) (hi : i < iw.gv.length) :
    (∃ s, iw.setGv eps i w = .ok s) ↔ (|w.sum - 1| ≤ eps ∧ w.length = iw.nvoices) := by
  simp only [IW.setGv_ok_iff, hi, true_and, exists_and_left, exists_eq', and_true]

/-- the sum is checked before the count: a bad sum is reported even when the count is wrong too -/
theorem sum_error_first (eps : K) (iw : IW K) (op : IWOp K) (w : List K)
    (hw : w = match op with | .dur w => w | .par _ w => w | .gv _ w => w)
    (hs : ¬ |w.sum - 1| ≤ eps) : IWOp.apply eps iw op = .err .invalidSum := by
  subst hw
  exact IWOp.apply_bad_sum eps iw op hs

set_option linter.unusedVariables false in
/-- An accepted update stores exactly the given weights in the addressed vector … (the well-formedness
    hypothesis is not needed) -/
theorem accepted_stores (eps : K) (iw s : IW K) (op : IWOp K) (ns : Nat) (hwf : iw.WF ns)
    (h : IWOp.apply eps iw op = .ok s) :
    s.select op.target = (match op with | .dur w => w | .par _ w => w | .gv _ w => w) ∧
    ∀ q, q ≠ op.target → s.select q = iw.select q := by
  obtain ⟨h1, h2⟩ := IWOp.apply_ok_select eps iw s op h
  exact ⟨by cases op <;> exact h1, h2⟩

/-- … and a rejected update leaves every weight vector as it was (so the previously effective weights
    stay in force): in any history, dropping the rejected updates changes nothing. -/
theorem rejected_is_noop (eps : K) (iw : IW K) (ops₁ ops₂ : List (IWOp K)) (op : IWOp K)
    (h : ∀ s, IWOp.apply eps (applyIWHistory eps iw ops₁) op ≠ .ok s) :
    applyIWHistory eps iw (ops₁ ++ op :: ops₂) = applyIWHistory eps iw (ops₁ ++ ops₂) :=
  applyIWHistory_drop_rejected eps iw ops₁ ops₂ op h

/-- the default equal weights are well-formed -/
theorem wf_new (nv ns : Nat) : (IW.new nv ns : IW K).WF ns := by
  have hl : ∀ l ∈ List.replicate ns (List.replicate nv ((1 : K) / nv)), l.length = nv :=
    fun l hl => List.eq_of_mem_replicate hl ▸ List.length_replicate
  exact ⟨List.length_replicate, List.length_replicate, List.length_replicate, hl, hl⟩

/-- Every weight vector keeps one entry per voice through any history (so the zip in the weighted
    average never truncates), e.g. starting from the default equal weights (`wf_new`). -/
theorem wf_history (eps : K) (iw : IW K) (ns : Nat) (h : iw.WF ns) (ops : List (IWOp K)) :
    (applyIWHistory eps iw ops).WF ns :=
  List.foldlRecOn (motive := (IW.WF · ns)) ops (stepIW eps) h fun s hs op _ => stepIW_wf eps s op ns hs

/-- the default weights are the average and are themselves valid -/
theorem default_average (nv ns : Nat) (hnv : 0 < nv) :
    (IW.new nv ns : IW K).duration = List.replicate nv (1 / (nv : K)) ∧
    (List.replicate nv (1 / (nv : K))).sum = 1 := by
  refine ⟨rfl, ?_⟩
  rw [List.sum_replicate, nsmul_eq_mul, mul_one_div_cancel (Nat.cast_ne_zero.mpr hnv.ne')]

/-! non-vacuity -/
example : ∃ s, (IW.new 2 3 : IW ℚ).setParameter 0 1 [3 / 4, 1 / 4] = .ok s := by
  refine ⟨_, (IW.setParameter_ok_iff _ _ _ _ _).mpr ⟨⟨?_, rfl⟩, ?_, rfl⟩⟩
  · norm_num
  · simp [IW.new]

example : (IW.new 2 3 : IW ℚ).setParameter 0 1 [3 / 4, 1 / 2] = .err .invalidSum :=
  IWOp.apply_bad_sum 0 _ (.par 1 [3 / 4, 1 / 2]) (by norm_num [IWOp.weights])

/-! ### for the whole library (`Jb/Proofs/SynthBridge.lean`) -/

/-- **C19 from the voice files.** A rejected interpolation-weight update anywhere in a history of weight updates leaves
    what `Engine::synthesize` returns unchanged — for every voice set, setter history, labels, every outcome. -/
theorem library_rejected_update_is_noop {K : Type} [Field K] [LinearOrder K] [IsStrictOrderedRing K] [FloorRing K]
    [Transc K] [Consts K] [MlpgConsts K] [FromFile K] (fx : Fix) (big : K)
    (voices : List Hts.ParsedVoice) (eps : K) (iw₀ : IW K) (wops₁ wops₂ : List (IWOp K)) (op : IWOp K)
    (ops : List (CondOp K)) (f : Condition K → Bool) (labels : List (List Char)) (times : List (K × K))
    (h : ∀ s, IWOp.apply eps (applyIWHistory eps iw₀ wops₁) op ≠ .ok s) :
    Synth.synthesize fx big voices (applyIWHistory eps iw₀ (wops₁ ++ op :: wops₂)) ops f labels times =
      Synth.synthesize fx big voices (applyIWHistory eps iw₀ (wops₁ ++ wops₂)) ops f labels times :=
  Synth.synthesize_same_weights fx big voices eps eps iw₀ iw₀ _ _ ops f labels times fun q => by
    rw [applyIWHistory_drop_rejected eps iw₀ wops₁ wops₂ op h]

end Jb.C19
