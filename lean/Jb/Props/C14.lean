/-
  C14 — the postfilter sharpens formants and preserves energy.

  Theorems (ordered field): the coefficient law of `postfilter_mcp` (orders ≥ 2 times 1+β, order 1
  unchanged, order 0 shifted by ½·ln(e₁/e₂) − βα²b₂ with e₁,e₂ the `b2en` energies), the no-op cases,
  and — for the energy estimate to be meaningful — `freqt` at α = 0 is the identity with the repaired
  input order, while the pinned commit's order reverses the cepstrum (the defect, fix 4304ae0).
  `postfilter_preserves_energy`: the compensation restores the 576-tap `b2en` energy exactly.
  The 1 % clause of the property compares the *true* impulse-response energy of the running (Padé-approximated)
  filter with and without β; that part is decided on every run from pulse responses through the public Vocoder.
-/
import Jb.Proofs.Energy

set_option linter.unusedSectionVars false

namespace Jb.C14

variable {K : Type} [Field K] [LinearOrder K] [IsStrictOrderedRing K] [Transc K] [Consts K]

theorem postfilter_noop (fx : Fix) (alpha beta : K) (c : List K) (h : ¬ 0 < beta ∨ c.length ≤ 2) :
    postfilterMcp fx alpha beta c = c := postfilterMcp_noop fx alpha beta c h

theorem beta_zero_changes_nothing (fx : Fix) (alpha : K) (c : List K) : postfilterMcp fx alpha 0 c = c :=
  postfilterMcp_noop fx alpha 0 c (Or.inl (lt_irrefl 0))

theorem postfilter_coeffs (fx : Fix) (alpha beta : K) (c : List K) (hb : 0 < beta) (hl : 2 < c.length) :
    let c' := postfilterMcp fx alpha beta c
    let b := mc2b alpha c
    let b' := (List.range b.length).zip b |>.map fun (k, x) =>
      if k = 1 then b.getD 1 0 - beta * alpha * b.getD 2 0 else if k ≥ 2 then x * (1 + beta) else x
    c'.length = c.length ∧
    (∀ k, 2 ≤ k → k < c.length → c'.getD k 0 = (1 + beta) * c.getD k 0) ∧
    c'.getD 1 0 = c.getD 1 0 ∧
    c'.getD 0 0 = c.getD 0 0 + Transc.ln (b2en fx alpha b / b2en fx alpha b') / ((2 : Nat) : K)
                  - beta * alpha * alpha * b.getD 2 0 :=
  postfilterMcp_coeffs fx alpha beta c hb hl

/-- the energy estimate sees the right spectrum: at α = 0 the frequency transform is the identity -/
theorem freqt_zero_identity (c : List K) (hc : c ≠ []) : freqt true c (c.length - 1) 0 = c :=
  freqt_zero_id c hc

/-- the defect of the pinned commit as a statement about its model -/
theorem pinned_freqt_reverses : freqt false ([1, 2, 3] : List ℚ) 2 0 = [3, 2, 1] := freqt_zero false _ 2
theorem fixed_freqt_identity : freqt true ([1, 2, 3] : List ℚ) 2 0 = [1, 2, 3] := freqt_zero true _ 2

/-- **Energy is preserved.** The gain compensation `ln(e₁/e₂)/2` on `b[0]` restores the energy of the 576-tap
    impulse response exactly: the `b2en` energy after `postfilter_mcp` equals the energy before, for every
    order, α and β (hypotheses: `exp` additive and positive, `exp ∘ ln = id` on positives). -/
theorem postfilter_preserves_energy
    (hexp : ∀ a b : K, Transc.exp (a + b) = Transc.exp a * Transc.exp b)
    (hpos : ∀ a : K, 0 < Transc.exp a)
    (hln : ∀ x : K, 0 < x → Transc.exp (Transc.ln x) = x)
    (b : Bool) (alpha beta : K) (c : List K) :
    b2en ⟨true, b⟩ alpha (mc2b alpha (postfilterMcp ⟨true, b⟩ alpha beta c)) = b2en ⟨true, b⟩ alpha (mc2b alpha c) := by
  by_cases hc : 0 < beta ∧ c.length > 2
  · rw [postfilterMcp_pos _ _ _ _ hc.1 hc.2, mc2b_b2mc]
    have hlen : (pfSharpen alpha beta (mc2b alpha c)).length = c.length :=
      (pfSharpen_length _ _ _).trans (mc2b_length alpha c)
    obtain ⟨y0, ys, hb'⟩ := List.exists_cons_of_length_pos (hlen ▸ Nat.zero_lt_of_lt hc.2)
    -- the shift `δ = ½ ln(e₁/e₂)` of `b₀` multiplies the energy `e₂` by `(exp δ)² = e₁/e₂`
    rw [hb', List.set_cons_zero, List.getD_cons_zero, b2en_shift0 hexp, ← hexp]
    have e1pos := b2en_pos hpos ⟨true, b⟩ alpha (mc2b alpha c)
    have e2pos := b2en_pos hpos ⟨true, b⟩ alpha (y0 :: ys)
    have h2 : ((2 : Nat) : K) = 2 := Nat.cast_ofNat
    rw [h2, add_halves, hln _ (div_pos e1pos e2pos)]
    exact mul_div_cancel₀ _ (ne_of_gt e2pos)
  · rw [postfilterMcp_noop _ _ _ _ ((not_and_or.1 hc).imp_right not_lt.1)]

/-- shifting `c[0]` by `δ` scales every tap of the impulse response by `exp δ` -/
theorem gain_scales_impulse_response (hexp : ∀ a b : K, Transc.exp (a + b) = Transc.exp a * Transc.exp b)
    (δ c0 : K) (rest : List K) (len : Nat) :
    c2ir ((c0 + δ) :: rest) len = (c2ir (c0 :: rest) len).map (· * Transc.exp δ) :=
  c2ir_shift0 hexp δ c0 rest len

end Jb.C14
