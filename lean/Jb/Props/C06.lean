/-
  C06 — the mel-cepstral synthesis filter realises the model spectrum.  **Partial.**

  Theorems (ordered field): the cepstrum ↔ filter-coefficient maps are mutually inverse for every α
  (so the filter is driven by exactly the model cepstrum); with all-zero coefficients the MLSA cascade
  is the identity in every state; a shift of `c₀` moves `b₀` alone, and the filter from rest is homogeneous in its
  input (that `vocoderSynth` multiplies the excitation by `exp(b₀)` and the filter does not read `b₀` is not a theorem
  here: the correspondence runs decide it).
  The transfer function as an identity of the code's arithmetic (frozen coefficients, from rest): the filter is two
  Padé stages in cascade, each stage is exactly `P(F)/P(−F)` of its basic filter (`P` the degree-5 polynomial whose
  coefficients the code carries, `P(w)/P(−w) ≈ exp w`), and gain term plus the two basic filters add up to the warped
  cepstrum polynomial `Σ_m c_m z̃^{-m}` — so the filter is `R(F₁)·R(F₂)` with `b₀ + F₁ + F₂ = Σ c_m z̃^{-m}` for every α.
  Not proved here: the analytic clause — |ln|H(e^{jω})| − Σ c_m cos(m ω̃)| ≤ 0.01 neper — is a bound on
  the Padé(5) approximation error of a concrete rational function; it is decided on every run by the
  DFT of the implementation's pulse response (and the bit-identical model).
-/
import Jb.Proofs.Pade
import Jb.Proofs.WarpBasis
import Jb.Proofs.WarpFir

set_option linter.unusedSectionVars false

namespace Jb.C06

variable {K : Type} [Field K] [LinearOrder K] [IsStrictOrderedRing K] [Transc K] [Consts K]

theorem cepstrum_roundtrip (alpha : K) (c : List K) : b2mc alpha (mc2b alpha c) = c := b2mc_mc2b alpha c
theorem coefficient_roundtrip (alpha : K) (b : List K) : mc2b alpha (b2mc alpha b) = b := mc2b_b2mc alpha b

/-- zero spectrum ⇒ identity filter (the C07 check drives `Vocoder` with an all-zero spectrum, which this makes the
    identity filter) -/
theorem zero_spectrum_identity (st : MlsaSt K) (x alpha : K) (c : List K) (hc : ∀ y ∈ c, y = 0) :
    (mlsaDf st x alpha c).1 = x := mlsaDf_zero st x alpha c hc

/-- Shifting `c₀` by `δ` shifts `b₀` by `δ` and leaves the other `b` unchanged. (That `b₀` enters `vocoderSynth` only
    as the factor `exp(b₀)` on the excitation is not a theorem; the correspondence runs decide it.) -/
theorem gain_shifts_b0 (alpha : K) (c0 δ : K) (rest : List K) :
    mc2b alpha ((c0 + δ) :: rest) = match mc2b alpha (c0 :: rest) with
      | [] => []
      | b0 :: bs => (b0 + δ) :: bs := by
  rw [mc2b_cons alpha (c0 + δ) rest, mc2b_cons alpha c0 rest, add_sub_right_comm]

/-- `exp` turns a shift `δ` of `b₀` into the factor `exp δ`: arithmetic of `exp` alone, no model function occurs
    (the `x * exp(coef[0])` of `vocoderSynth` is not linked to it by a theorem). -/
theorem gain_scales_input (hexp : ∀ a b : K, Transc.exp (a + b) = Transc.exp a * Transc.exp b)
    (x b0 δ : K) : x * Transc.exp (b0 + δ) = (x * Transc.exp b0) * Transc.exp δ := by
  rw [hexp]; ring

/-- **The filter is homogeneous in its input**: with frozen coefficients and zero initial state, scaling the
    excitation by `a` scales the whole response by `a` (so a factor put on the excitation, as `vocoderSynth` does
    with `exp(b₀)` outside this statement, is a factor on the response). -/
theorem response_scales (a alpha : K) (c : List K) (nmcp : Nat) (xs : List K) :
    mlsaRun alpha c (MlsaSt.init nmcp) (xs.map (a * ·)) = (mlsaRun alpha c (MlsaSt.init nmcp) xs).map (a * ·) :=
  (mlsaRun_isLTI alpha c nmcp).smul a xs

/-- **The pulse response determines the filter.** With frozen coefficients the MLSA filter (Padé cascade as
    coded) is linear and time-invariant: its output on ANY excitation is the convolution of the excitation
    with its response to one pulse — which is the response the check measures on the implementation. -/
theorem response_is_convolution (alpha : K) (c : List K) (nmcp : Nat) (xs : List K) (n : Nat) (hn : n < xs.length) :
    (mlsaRun alpha c (MlsaSt.init nmcp) xs).getD n 0 =
      (Finset.range (n + 1)).sum fun k => (mlsaPulse alpha c nmcp xs.length).getD k 0 * xs.getD (n - k) 0 :=
  (mlsaRun_isLTI alpha c nmcp).convolution xs n hn

/-- superposition (zero initial state) -/
theorem response_additive (alpha : K) (c : List K) (nmcp : Nat) (xs ys : List K) (h : xs.length = ys.length) :
    mlsaRun alpha c (MlsaSt.init nmcp) (List.zipWith (· + ·) xs ys) =
      List.zipWith (· + ·) (mlsaRun alpha c (MlsaSt.init nmcp) xs) (mlsaRun alpha c (MlsaSt.init nmcp) ys) :=
  (mlsaRun_isLTI alpha c nmcp).add h

/-! ### the transfer function, algebraically (every `α`, every order, every input signal) -/

/-- the MLSA filter is the second Padé stage run on the output of the first -/
theorem filter_is_two_stages (alpha : K) (c : List K) (nmcp : Nat) (xs : List K) :
    mlsaRun alpha c (MlsaSt.init nmcp) xs =
      df2Run alpha c (MlsaSt.init nmcp) (df1Run alpha c (MlsaSt.init nmcp) xs) :=
  mlsaRun_eq_df2Run_df1Run alpha c xs _ _ _ rfl rfl rfl rfl

/-- **stage 1 is `P(F₁)/P(−F₁)`**, `F₁ = c₁·Φ₁`: there is an inner signal `w` (the one the code stores) with
    `P(−F₁) w = x` and `P(F₁) w = y`. -/
theorem stage1_is_pade (alpha : K) (c : List K) (nmcp : Nat) (xs : List K) (n : Nat) (hn : n < xs.length) :
    padeApply (-1) (basic1 alpha c) (df1Inner alpha c (MlsaSt.init nmcp) xs) n = xs.getD n 0 ∧
    padeApply 1 (basic1 alpha c) (df1Inner alpha c (MlsaSt.init nmcp) xs) n =
      (df1Run alpha c (MlsaSt.init nmcp) xs).getD n 0 := by
  rw [df1Inner_eq]
  exact tapSig_pade (run := df1Run alpha c) (fun _ _ _ => rfl) (fun i st => st.d12.getD i 0) MlsaSt.SixTaps
    (fun st x h => df1_step_pade st x alpha c h) _ _ (.init nmcp) xs (df1Tap_succ_rest alpha c nmcp xs) n hn

/-- **stage 2 is `P(F₂)/P(−F₂)`**, `F₂ = Σ_{k≥2} c_k Φ_k` (the code's warped FIR on the delayed signal). -/
theorem stage2_is_pade (alpha : K) (c : List K) (nmcp : Nat) (xs : List K) (n : Nat) (hn : n < xs.length) :
    padeApply (-1) (basic2 alpha c nmcp) (df2Inner alpha c (MlsaSt.init nmcp) xs) n = xs.getD n 0 ∧
    padeApply 1 (basic2 alpha c nmcp) (df2Inner alpha c (MlsaSt.init nmcp) xs) n =
      (df2Run alpha c (MlsaSt.init nmcp) xs).getD n 0 := by
  rw [df2Inner_eq]
  exact tapSig_pade (run := df2Run alpha c) (fun _ _ _ => rfl) (fun i st => st.d22.getD i 0) MlsaSt.SixTaps
    (fun st x h => df2_step_pade st x alpha c h) _ _ (.init nmcp) xs (df2Tap_succ_rest alpha c nmcp xs) n hn

/-- **the exponent is the model spectrum**: with `b = mc2b α c` the gain term and the two basic filters add up to
    `Σ_m c_m z̃^{-m}`, `z̃⁻¹ = (z⁻¹ − α)/(1 − α z⁻¹)` — on the unit circle `Σ_m c_m cos(m ω̃)` is its real part. -/
theorem exponent_is_model_spectrum (alpha : K) (c us : List K) (hc : 2 ≤ c.length) (n : Nat) (hn : n < us.length) :
    (mc2b alpha c).getD 0 0 * us.getD n 0 + (basic1 alpha (mc2b alpha c) us).getD n 0 +
        (basic2 alpha (mc2b alpha c) c.length us).getD n 0 =
      (Finset.range c.length).sum fun m => c.getD m 0 * (allpassPow alpha m us).getD n 0 := by
  rw [← warp_basis_identity_mc2b alpha c us n, basic1_getD]
  have hl : (mc2b alpha c).length = c.length := mc2b_length alpha c
  have h2 := basic2_getD alpha (mc2b alpha c) us n hn
  rw [hl] at h2
  rw [h2, add_assoc]
  congr 1
  rw [Finset.sum_eq_sum_Ico_succ_bot (by omega : 1 < c.length)]

/-! ### the statements on a concrete cepstrum over ℚ (`Transc ℚ`, `Consts ℚ`: any values will do) -/

instance : Transc ℚ := ⟨id, id, id, id, fun x _ => x⟩
instance : Consts ℚ := ⟨10, 3, 1 / 17, 1 / 9, -10000000000, 3, 1 / 10 ^ 100⟩
example : mc2b (1 / 2 : ℚ) [1, 2, 4] = [1, 0, 4] := by decide +kernel

/-- non-vacuity: a concrete cepstrum, `α = 1/2`, a three-sample signal -/
example : (2 : Nat) ≤ ([1, 2, 4] : List ℚ).length ∧ (1 : Nat) < ([3, 0, 5] : List ℚ).length := by decide

end Jb.C06
