/-
  C16 — volume is a pure gain in decibels.

  One frame at gain `g` is the gain-1 frame scaled sample by sample, with the same vocoder state (`frame_gain`, from
  `vocoderSynth_volume`); hence by induction the rendering of any frame list (`render_gain`), the pipeline model
  (`synthesize_gain`, `synthesize_volume_db`) and the whole library (`library_volume_is_gain`).  `set_volume` stores
  `exp(v·ln10/20)` and changes no other setting; `db_additive` is arithmetic of `exp` only.
-/
import Jb.Props.C20
import Jb.Proofs.SynthBridge

set_option linter.unusedSectionVars false

namespace Jb.C16

variable {K : Type} [Field K] [LinearOrder K] [IsStrictOrderedRing K] [Transc K] [Consts K]

/-- One frame at gain `g` is the frame at gain 1 scaled sample by sample — for either filter family,
    any excitation, any post-filter — and the vocoder state evolves identically. -/
theorem frame_gain (fx : Fix) (v : VocoderSt K) (g : K) (lf0 : K) (sp lpf : List K) :
    vocoderSynth fx { v with volume := g } lf0 sp lpf =
      (((vocoderSynth fx { v with volume := 1 } lf0 sp lpf).1.map fun y => y * g),
       { (vocoderSynth fx { v with volume := 1 } lf0 sp lpf).2 with volume := g }) :=
  vocoderSynth_volume fx v g lf0 sp lpf

/-- By induction over the frames, the whole rendering at gain `g` is the rendering at gain 1 scaled by `g`. -/
theorem render_gain (fx : Fix) (g : K) (frames : List (K × List K × List K)) (v : VocoderSt K) :
    (frames.foldl (fun (acc : List K × VocoderSt K) f =>
        let r := vocoderSynth fx acc.2 f.1 f.2.1 f.2.2; (acc.1 ++ r.1, r.2)) ([], { v with volume := g })).1 =
    ((frames.foldl (fun (acc : List K × VocoderSt K) f =>
        let r := vocoderSynth fx acc.2 f.1 f.2.1 f.2.2; (acc.1 ++ r.1, r.2)) ([], { v with volume := 1 })).1.map (· * g)) := by
  have hr := Gen.foldl_eq_render
    (fun v (f : K × List K × List K) => (vocoderSynth fx v f.1 f.2.1 f.2.2).swap) frames []
  simp only [Prod.swap] at hr
  rw [hr, hr]
  exact Gen.render_scale _ (fun g (v : VocoderSt K) => { v with volume := g }) 1
    (fun g v f => by rw [vocoderSynth_volume]) g frames v

/-- reading the volume back returns `v` (given `ln ∘ exp = id`) -/
theorem volume_roundtrip (hle : ∀ x : K, Transc.ln (Transc.exp x) = x) (hdb : (Consts.db : K) ≠ 0)
    (c : Condition K) (v : K) : (c.setVolume v).getVolume = v :=
  Jb.C20.volume_roundtrip hle hdb c v

/-- decibels add: in the gain `exp(v · Consts.db)` (the formula of `Condition.setVolume`, which does not occur in the
    statement) `exp` turns the sum into a product, so `+6.02 dB` doubles -/
theorem db_additive (hexp : ∀ a b : K, Transc.exp (a + b) = Transc.exp a * Transc.exp b) (a b : K) :
    Transc.exp ((a + b) * Consts.db) = Transc.exp (a * Consts.db) * Transc.exp (b * Consts.db) := by
  rw [add_mul, hexp]

/-- setting the volume changes no other setting -/
theorem volume_frame (c : Condition K) (v : K) :
    let c' := c.setVolume v
    c'.samplingFrequency = c.samplingFrequency ∧ c'.fperiod = c.fperiod ∧ c'.msdThreshold = c.msdThreshold ∧
    c'.gvWeight = c.gvWeight ∧ c'.alignment = c.alignment ∧ c'.speed = c.speed ∧ c'.alpha = c.alpha ∧
    c'.beta = c.beta ∧ c'.halfTone = c.halfTone ∧ c'.stage = c.stage ∧ c'.useLogGain = c.useLogGain := by
  simp [Condition.setVolume]

/-- **Volume is a pure gain of the whole synthesis** (pipeline model): with linear gain `g` every sample is `g` times the
    gain-1 sample — durations, trajectories and vocoder state never see the volume. -/
theorem synthesize_gain [FloorRing K] [MlpgConsts K] (fx : Fix) (c : Condition K) (g : K) (b : Bool) (inp : EngineIn K) :
    engineSynthesize fx { c with volume := g } b inp =
      (engineSynthesize fx { c with volume := 1 } b inp).map fun w => w.map (· * g) :=
  engineSynthesize_volume fx c g b inp

/-- In decibels: `set_volume(v)` multiplies the 0 dB waveform by `exp(v·ln10/20) = 10^(v/20)`. -/
theorem synthesize_volume_db [FloorRing K] [MlpgConsts K] (hexp0 : Transc.exp (0 : K) = 1) (fx : Fix) (c : Condition K) (v : K)
    (b : Bool) (inp : EngineIn K) :
    engineSynthesize fx (c.setVolume v) b inp =
      (engineSynthesize fx (c.setVolume 0) b inp).map fun w => w.map (· * Transc.exp (v * Consts.db)) :=
  engineSynthesize_setVolume hexp0 fx c v b inp

/-! ### for the whole library (`Jb/Proofs/SynthBridge.lean`): any voice set, weights, setter history, labels -/

/-- **C16 from the voice files.** Appending `set_volume(v)` to any setter history multiplies every sample of what
    `Engine::synthesize` returns by `exp(v·ln10/20)` relative to appending `set_volume(0)` — same outcome class, same
    length — for every voice set (well-formed or not), weights, labels and time stamps. `SpeedOnly f` says the model's
    `speed == 1.0` test reads the speed only (without it the statement is false: `Synth.Cex.volume_needs_speedOnly`). -/
theorem library_volume_is_gain {K : Type} [Field K] [LinearOrder K] [IsStrictOrderedRing K] [FloorRing K]
    [Transc K] [Consts K] [MlpgConsts K] [FromFile K] (hexp0 : Transc.exp (0 : K) = 1) (fx : Fix) (big : K)
    (voices : List Hts.ParsedVoice) (iw : IW K) (ops : List (CondOp K)) (f : Condition K → Bool) (hf : Synth.SpeedOnly f)
    (labels : List (List Char)) (times : List (K × K)) (v : K) :
    Synth.synthesize fx big voices iw (ops ++ [.vol v]) f labels times =
      (Synth.synthesize fx big voices iw (ops ++ [.vol 0]) f labels times).map
        fun w => w.map (· * Transc.exp (v * Consts.db)) :=
  Synth.synthesize_volume hexp0 fx big voices iw ops f hf labels times v

end Jb.C16
