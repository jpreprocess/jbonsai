/-
  C02 — incremental generation equals one-shot synthesis.

  Model: `Jb/Model/Speech.lean` — the generator state machine over an abstract vocoder
  `synth : V → F → V × List α` whose only assumed property is that a frame yields `fperiod` samples.
  `finish … true` is the repaired `generate_all` (fix commit in /repo); `finish … false` is the pinned
  commit's indexing, kept so that the defect is a theorem about its model.
-/
import Jb.Proofs.Speech

namespace Jb.C02
open Gen

variable {V F α : Type} [OfNat α 0]

def fresh (fp : Nat) (frames : List F) (v0 : V) : Gen V F :=
  { fperiod := fp, frames := frames, next := 0, voc := v0 }

/-- One-shot synthesis is the rendering of all frames. -/
theorem oneshot_is_render (synth : V → F → V × List α) (fp : Nat) (frames : List F) (v0 : V)
    (hs : ∀ v f, (synth v f).2.length = fp) :
    finish synth true (fresh fp frames v0) = .ok (render synth v0 frames) :=
  finish_fixed synth (fresh fp frames v0) hs (Nat.zero_le _)

/-- **History refinement.** Every caller history over {step with any buffer, frames-produced query,
    finish} on a fresh generator yields exactly the observations of the trivial specification machine
    "cursor into the one-shot waveform": a live step returns `fperiod`, overwrites the first `fperiod`
    cells with the next chunk of the one-shot waveform and leaves the rest of the buffer untouched; an
    exhausted step returns 0 and leaves the buffer untouched; the query returns the cursor; finish
    returns exactly the not-yet-produced suffix. Buffer sizes are arbitrary (a buffer shorter than a
    frame is the documented panic, in both machines). -/
theorem history_refines (synth : V → F → V × List α) (fp : Nat) (frames : List F) (v0 : V)
    (hs : ∀ v f, (synth v f).2.length = fp) (ops : List (GenOp × List α)) :
    runOps synth true (fresh fp frames v0) ops =
      specOps (render synth v0 frames) fp frames.length 0 ops :=
  runOps_refines synth v0 (fresh fp frames v0) hs (Nat.zero_le _) rfl ops

/-- Once exhausted, a step returns 0 and writes nothing. -/
theorem step_exhausted (synth : V → F → V × List α) (g : Gen V F) (buf : List α)
    (h : g.frames.length ≤ g.next) : step synth g buf = .ok (g, 0, buf) :=
  Gen.step_exhausted synth g buf h

/-- what a sequence of observations wrote: the first `n` cells of the buffer after each step that returned `n` -/
def chunks : List (GenObs α) → List α
  | [] => []
  | .stepped n buf :: rest => buf.take n ++ chunks rest
  | _ :: rest => chunks rest

set_option linter.unusedSectionVars false in
/-- Corollary of the refinement: pulling frame by frame with any buffer sizes ≥ one frame and
    concatenating the written chunks gives the one-shot waveform. Stated on the specification machine,
    which `history_refines` shows is what the generator does. -/
theorem chunks_concat_eq_oneshot (w : List α) (fp n : Nat) (hw : w.length = n * fp)
    (ops : List (GenOp × List α)) (k : Nat) (hk : k ≤ n)
    (hall : ∀ op ∈ ops, (∃ b, op.1 = GenOp.step b) ∧ fp ≤ op.2.length)
    (hlen : n - k ≤ ops.length) :
    chunks (specOps w fp n k ops) = w.drop (k * fp) := by
  induction ops generalizing k with
  | nil =>
    obtain rfl : k = n := Nat.le_antisymm hk (Nat.sub_eq_zero_iff_le.1 (Nat.le_zero.1 hlen))
    exact (List.drop_eq_nil_of_le (Nat.le_of_eq hw)).symm
  | cons op rest ih =>
    obtain ⟨⟨b, hb⟩, hbuf⟩ := hall op List.mem_cons_self
    obtain ⟨o, buf⟩ := op
    subst hb
    have hall' := fun op hop => hall op (List.mem_cons_of_mem _ hop)
    rw [List.length_cons] at hlen
    rcases Nat.lt_or_ge k n with hlt | hge
    · -- a live step writes the next `fp` samples of `w`, which exist
      have hchunk : ((w.drop (k * fp)).take fp).length = fp := by
        have := Nat.mul_le_mul_right fp hlt
        rw [Nat.succ_mul] at this
        rw [List.length_take, List.length_drop, hw]
        omega
      rw [specOps_step_live hlt hbuf, chunks, List.take_left' hchunk,
        ih (k + 1) hlt hall' (by omega), Nat.succ_mul, ← List.drop_drop, List.take_append_drop]
    · rw [specOps_step_exhausted hge, chunks, List.take_zero, List.nil_append]
      exact ih k hk hall' (by omega)

/-- a vocoder with real state: the running sum of the frames, one sample per frame -/
def toySynth : Nat → Nat → Nat × List Nat := fun v f => (v + f, [v + f])

/-- The defect of the pinned commit as a theorem about its model: `generate_all` after one
    `generate_step` panics (buffer sized for the remainder, indexed from the absolute frame). -/
theorem finish_after_step_panics_before_fix :
    ∃ s, finish toySynth false ({ fperiod := 1, frames := [1, 2], next := 1, voc := 1 } : Gen Nat Nat)
      = .panic s :=
  ⟨_, rfl⟩

theorem finish_after_step_ok_after_fix :
    finish toySynth true ({ fperiod := 1, frames := [1, 2], next := 1, voc := 1 } : Gen Nat Nat)
      = .ok [3] :=
  rfl

/-- Non-vacuity: a 3-frame generator with a vocoder that has real state (running sum). -/
example : runOps toySynth true (fresh 1 [1, 2, 3] 0)
    [(.step 2, [9, 9]), (.query, []), (.step 1, [9]), (.finish, [])] =
    [.stepped 1 [1, 9], .count 1, .stepped 1 [3], .finished [6]] := by
  rfl

end Jb.C02
