/-
  C09 — phoneme alignment is honoured.

  Model: `fillTimes` (Labels::new), `createWithAlignment` in `Jb/Model/Duration.lean`.
  `createWithAlignment true` is the repaired code (fix commit in /repo: trailing labels without an end
  time fall back to their model durations); `createWithAlignment false` is the pinned commit's
  behaviour, kept in the model so that the defect is a theorem too (`trailing_dropped_before_fix`).
-/
import Jb.Proofs.SynthBridge
import Mathlib.Data.Rat.Floor
import Mathlib.Tactic.NormNum

set_option linter.unusedSectionVars false

namespace Jb.C09

variable {K : Type} [Field K] [LinearOrder K] [IsStrictOrderedRing K] [FloorRing K]

/-- `Labels::new`: an unknown end inherits the next label's start, an unknown start the previous
    label's end, the rest becomes −1; known values are kept. -/
theorem fill_spec (ts : List (K × K)) :
    (fillTimes ts).length = ts.length ∧
    ∀ i, i < ts.length → (fillTimes ts).getD i (0, 0) = fillSpecAt ts i :=
  ⟨fillTimes_length ts, fun i hi => fillTimes_spec ts i hi⟩

set_option linter.unusedVariables false in
/-- No label vanishes: one duration per state of every label, each ≥ 1, no panic. (`0 < nstate` is not
    needed for this.) -/
theorem alignment_keeps_all (ps : List (MeanVari K)) (nstate : Nat) (times : List (K × K))
    (hn : 0 < nstate) (hlen : ps.length = times.length * nstate) :
    ∃ d, createWithAlignment true ps nstate times = .ok d ∧ d.length = ps.length ∧
      ∀ x ∈ d, 1 ≤ x :=
  let ⟨d, h1, h2, h3, _⟩ := createWithAlignment_spec ps nstate times hlen
  ⟨d, h1, h2, h3⟩

/-- The cumulative law. For a label `i` with known end `e` (in frames): let `g` be the start of its
    group, `c` the frames generated before the group, `m` the number of states in the group.
    If `round(e − c)` exceeds `m`, the frames up to and including label `i` are `c + round(e − c)`;
    otherwise every state of the group lasts exactly one frame. -/
theorem aligned_cumulative (ps : List (MeanVari K)) (nstate : Nat) (times : List (K × K))
    (hn : 0 < nstate) (hlen : ps.length = times.length * nstate) (d : List Nat)
    (hd : createWithAlignment true ps nstate times = .ok d)
    (i : Nat) (hi : i < times.length) (he : 0 ≤ (times.getD i (0, 0)).2) :
    let e := (times.getD i (0, 0)).2
    let g := groupStart times i
    let c := (d.take (g * nstate)).sum
    let m := (i + 1 - g) * nstate
    (m < RoundNat.roundMax1 (e - (c : K)) →
        (d.take ((i + 1) * nstate)).sum = c + RoundNat.roundMax1 (e - (c : K))) ∧
    (RoundNat.roundMax1 (e - (c : K)) ≤ m →
        ∀ x ∈ (d.drop (g * nstate)).take m, x = 1) :=
  align_cumulative ps nstate times hn hlen d hd i hi he

/-- … and `c + round(e − c)` is `round(e)`: the frames through the label equal the rounded end time. -/
theorem cumulative_is_round_end (e : K) (c : Nat) (h : 1 ≤ ⌊e + 1 / 2⌋₊ - c) :
    c + RoundNat.roundMax1 (e - (c : K)) = ⌊e + 1 / 2⌋₊ :=
  add_roundMax1_sub_natCast e c h

/-- The defect of the pinned commit, as a theorem about its model: one label, no time stamps —
    every state vanishes. After the fix the model durations are used. -/
theorem trailing_dropped_before_fix :
    createWithAlignment false ([⟨3, 1⟩, ⟨2, 1⟩] : List (MeanVari ℚ)) 2 [(-1, -1)] = .ok [] := by
  rw [createWithAlignment, alignLoop_unknown_last (by norm_num) (by simp) (by simp)]
  simp

theorem trailing_kept_after_fix :
    createWithAlignment true ([⟨3, 1⟩, ⟨2, 1⟩] : List (MeanVari ℚ)) 2 [(-1, -1)] = .ok [3, 2] := by
  rw [createWithAlignment, alignLoop_unknown_last (by norm_num) (by simp) (by simp)]
  norm_num [estimateDuration, roundMax1_def, Nat.floor_eq_iff]

/-! ### for the whole library (`Jb/Proofs/SynthBridge.lean`) -/

/-- **C09 from the voice files** (statement: `Synth.durations_alignment`). On a well-formed voice set with alignment on and
    one time pair per label, the durations `Engine::generator` uses are `createWithAlignment` of the interpolated duration
    model and `times`: one duration ≥ 1 per state of every label (no label vanishes), the waveform has
    `frame_period × Σ durations` samples, and for every label with a known end the cumulative law of `aligned_cumulative`
    holds with that list. `times` is `EngineIn.times`, i.e. `Labels::times()` in frames, after the gap filling of
    `Labels::new` and the rate conversion; no theorem here links a filled-in end to the law. -/
alias library_alignment_law := Synth.durations_alignment

/-- … in particular the frames up to and including a label with known end `e` number `round(e)` whenever its group gets more
    than one frame per state (statement: `Synth.durations_alignment_round_end`). -/
alias library_alignment_round_end := Synth.durations_alignment_round_end

end Jb.C09
