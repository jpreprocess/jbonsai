/-
  C08 for the whole library: the speed law of `Synth.synthesize` (voice files, weights, setter history, label text;
  `Synth.synthesize_speed_law`, `Jb/Proofs/SynthBridge.lean`) for a history that ends in `set_speed(s)`.
-/
import Jb.Proofs.SynthBridge

namespace Jb.C08

/-- **C08 from the voice files.** On a well-formed voice set, alignment off, a history ending in `set_speed(s)` with
    `s ≠ 1` (the model's speed test answers `false`): `Engine::synthesize` returns `frame_period × F` samples with
    `F = max(round(F1 / max(s, 1e-6)), labels × states)`, `F1` the speed-1 total of the interpolated duration model, and
    every state lasts at least one frame. -/
theorem library_speed_law {K : Type} [Field K] [LinearOrder K] [IsStrictOrderedRing K] [FloorRing K]
    [Transc K] [Consts K] [MlpgConsts K] [FromFile K] (fx : Fix) (big : K) (voices : List Hts.ParsedVoice) (iw : IW K)
    (h : Synth.VoicesWF voices iw) (v0 : Hts.ParsedVoice) (hv0 : voices.head? = some v0) (ops : List (CondOp K))
    (f : Condition K → Bool) (labels : List (List Char)) (times : List (K × K)) (s : K)
    (halign : (Synth.condOf (K := K) v0 ops).alignment = false) (hne : labels ≠ [])
    (hf : f (Synth.condOf v0 (ops ++ [.speed s])) = false) :
    ∃ (durs : List Nat) (w : List K), Synth.synthesize fx big voices iw (ops ++ [.speed s]) f labels times = .ok w ∧
      w.length = (Synth.condOf (K := K) v0 ops).fperiod * durs.sum ∧
      durs.length = labels.length * v0.global.nstates ∧ (∀ d ∈ durs, 1 ≤ d) ∧
      durs.sum = max (RoundNat.roundMax1 ((Synth.frames1 voices iw labels : K) / maxS s speedMin))
        (labels.length * v0.global.nstates) := by
  obtain ⟨durs, w, h1, h2, h3, h4, h5⟩ := Synth.synthesize_speed_law fx big voices iw h v0 hv0 (ops ++ [.speed s]) f
    labels times (by rw [Synth.condOf_snoc]; exact halign) hne hf
  exact ⟨durs, w, h1, by rw [h2, Synth.condOf_snoc]; rfl, h3, h4, by rw [h5, Synth.condOf_snoc]; rfl⟩

end Jb.C08
