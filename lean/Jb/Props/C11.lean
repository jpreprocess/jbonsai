/-
  C11 — voicing follows each stream's MSD threshold.
-/
import Jb.Proofs.Excitation
import Jb.Proofs.SynthBridge

set_option linter.unusedSectionVars false

namespace Jb.C11

variable {K : Type} [Field K] [LinearOrder K] [IsStrictOrderedRing K] [FloorRing K]
  [Transc K] [Consts K] [MlpgConsts K]

/-- A frame is voiced iff the voicing weight of the state its duration assigns exceeds the threshold. -/
theorem voiced_iff (stream : List (StateParam K)) (thr : K) (durs : List Nat) (s f : Nat)
    (hs : s < stream.length) (hs' : s < durs.length)
    (hlo : (durs.take s).sum ≤ f) (hhi : f < (durs.take (s + 1)).sum) :
    (maskCreate stream thr durs)[f]? = some (decide (thr < (stream.getD s ⟨[], 0⟩).msd)) := by
  unfold maskCreate
  rw [expand_spec _ _ s f (by simpa using hs) hs' hlo hhi]
  simp [List.getElem?_map, List.getElem?_eq_getElem hs, List.getD_eq_getElem?_getD]

/-- Raising the threshold can only turn voiced frames unvoiced, never the reverse. -/
theorem threshold_antitone (stream : List (StateParam K)) (thr thr' : K) (h : thr ≤ thr') (durs : List Nat)
    (f : Nat) (hv : (maskCreate stream thr' durs)[f]? = some true) :
    (maskCreate stream thr durs)[f]? = some true :=
  mask_antitone stream thr thr' h durs f hv

/-- Unvoiced frames carry no F0 (the no-data marker, in every dimension) … -/
theorem unvoiced_nodata (gw thr : K) (s : StreamIn K) (durs : List Nat) (rows : List (List K))
    (h : mlpgCreate gw thr s durs = .ok rows) (f : Nat)
    (hm : (maskCreate s.stream thr durs)[f]? = some false) :
    rows[f]? = some (List.replicate s.vectorLength Consts.nodata) := by
  obtain ⟨-, -, hcols, rfl⟩ := (mlpgCreate_eq_ok_iff ..).1 h
  have hf := (List.getElem?_eq_some_iff.1 hm).1
  rw [List.getElem?_map, List.getElem?_range hf, Option.map_some, Option.some.injEq, List.eq_replicate_iff]
  -- every column is `some r`, and `fill` put the marker at `r[f]`
  refine ⟨by simp only [List.length_map, List.length_range], fun x hx => ?_⟩
  obtain ⟨c, hc, rfl⟩ := List.mem_map.1 hx
  obtain ⟨col, hcol, rfl⟩ := List.mem_map.1 hc
  obtain ⟨m, hm', rfl⟩ := List.mem_map.1 hcol
  obtain ⟨r, hr⟩ := hcols m (List.mem_range.1 hm')
  rw [hr, Option.getD_some, List.getD_eq_getElem?_getD, mlpgCol_nodata gw thr s durs m r hr f hm, Option.getD_some]

/-- … and the vocoder's conversion of log-F0 to a pitch period maps the no-data marker to period 0. (That a frame
    of period 0 takes the noise branch of the excitation is not stated here.) -/
theorem nodata_is_unvoiced (rate : Nat) : periodOfLf0 rate (Consts.nodata : K) = 0 := period_nodata rate

/-- Changing another stream's threshold or GV weight leaves stream `i`'s trajectory unchanged. -/
theorem stream_isolation (c c' : Condition K) (inp : EngineIn K) (durs : List Nat) (i : Nat)
    (hg : c.gvWeight[i]? = c'.gvWeight[i]?) (ht : c.msdThreshold[i]? = c'.msdThreshold[i]?)
    (hh : c.halfTone = c'.halfTone) :
    engineStream c inp durs i = engineStream c' inp durs i :=
  engineStream_congr c c' inp durs i hg ht (fun _ => hh)

/-- in particular: the setters for stream `j ≠ i` -/
theorem other_stream_setters (c : Condition K) (inp : EngineIn K) (durs : List Nat) (i j : Nat) (hij : j ≠ i)
    (t g : K) (c1 c2 : Condition K) (h1 : c.setMsdThreshold j t = .ok c1) (h2 : c1.setGvWeight j g = .ok c2) :
    engineStream c2 inp durs i = engineStream c inp durs i := by
  obtain rfl := Condition.setMsdThreshold_ok h1
  obtain rfl := Condition.setGvWeight_ok h2
  exact engineStream_congr _ _ inp durs i (List.getElem?_set_ne hij) (List.getElem?_set_ne hij) fun _ => rfl

/-- a stream that is not multi-space (weight = `f64::MAX` stand-in `big` above every threshold) is all voiced -/
theorem non_msd_all_voiced (stream : List (StateParam K)) (thr big : K) (hb : thr < big)
    (hall : ∀ s ∈ stream, s.msd = big) (durs : List Nat) (f : Nat) (b : Bool)
    (h : (maskCreate stream thr durs)[f]? = some b) : b = true := by
  rw [maskCreate, expand_map, List.getElem?_map] at h
  obtain ⟨s, hs, rfl⟩ := Option.map_eq_some_iff.mp h
  rw [hall s (mem_expand _ _ _ (List.mem_of_getElem? hs))]
  exact decide_eq_true hb

/-- **C11 from the voice files.** On a well-formed voice set, appending `set_msd_threshold(i, x)` to any history leaves
    the durations and the trajectories of every *other* stream unchanged. `i` is not required to be in range: the Rust
    setter then panics (`msd_threshold[stream_index]`), and the statement holds there because the model's `applyHistory`
    skips such a call. -/
theorem library_threshold_touches_own_stream_only {K : Type} [Field K] [LinearOrder K] [IsStrictOrderedRing K] [FloorRing K]
    [Transc K] [Consts K] [MlpgConsts K] [FromFile K] (big : K) (voices : List Hts.ParsedVoice) (iw : IW K)
    (h : Synth.VoicesWF voices iw) (v0 : Hts.ParsedVoice) (hv0 : voices.head? = some v0) (ops : List (CondOp K))
    (f : Condition K → Bool) (hf : Synth.SpeedOnly f) (labels : List (List Char)) (times : List (K × K))
    (halign : (Synth.condOf (K := K) v0 ops).alignment = true → times.length = labels.length) (i : Nat) (x : K) :
    ∃ p p', Synth.params big voices iw ops f labels times = .ok p ∧
      Synth.params big voices iw (ops ++ [.msd i x]) f labels times = .ok p' ∧
      p'.durations = p.durations ∧
      p'.spectrum.length = p.spectrum.length ∧ p'.lf0.length = p.lf0.length ∧ p'.lpf.length = p.lpf.length ∧
      (i ≠ 0 → p'.spectrum = p.spectrum) ∧ (i ≠ 1 → p'.lf0 = p.lf0) ∧ (i ≠ 2 → p'.lpf = p.lpf) :=
  Synth.params_snoc big voices iw h v0 hv0 ops f hf labels times halign (.msd i x) (i = ·)
    (by rw [stepC_msd]) (by rw [stepC_msd]) fun j hj => by simp [Synth.StreamSame, stepC_msd, hj]

/-- … and likewise for `set_gv_weight(i, x)`, with the same reading of an out-of-range `i`. -/
theorem library_gv_weight_touches_own_stream_only {K : Type} [Field K] [LinearOrder K] [IsStrictOrderedRing K] [FloorRing K]
    [Transc K] [Consts K] [MlpgConsts K] [FromFile K] (big : K) (voices : List Hts.ParsedVoice) (iw : IW K)
    (h : Synth.VoicesWF voices iw) (v0 : Hts.ParsedVoice) (hv0 : voices.head? = some v0) (ops : List (CondOp K))
    (f : Condition K → Bool) (hf : Synth.SpeedOnly f) (labels : List (List Char)) (times : List (K × K))
    (halign : (Synth.condOf (K := K) v0 ops).alignment = true → times.length = labels.length) (i : Nat) (x : K) :
    ∃ p p', Synth.params big voices iw ops f labels times = .ok p ∧
      Synth.params big voices iw (ops ++ [.gv i x]) f labels times = .ok p' ∧
      p'.durations = p.durations ∧
      p'.spectrum.length = p.spectrum.length ∧ p'.lf0.length = p.lf0.length ∧ p'.lpf.length = p.lpf.length ∧
      (i ≠ 0 → p'.spectrum = p.spectrum) ∧ (i ≠ 1 → p'.lf0 = p.lf0) ∧ (i ≠ 2 → p'.lpf = p.lpf) :=
  Synth.params_snoc big voices iw h v0 hv0 ops f hf labels times halign (.gv i x) (i = ·)
    (by rw [stepC_gv]) (by rw [stepC_gv]) fun j hj => by simp [Synth.StreamSame, stepC_gv, hj]

end Jb.C11
