/-
  C05 — generated trajectories are the maximum-likelihood solution (MLPG).

  The chain, over any linearly ordered field: state expansion, MSD mask, boundary distances and `fill` are what the
  property says (`Jb/Proofs/Mask.lean`); `calc_wuw_and_wum` assembles exactly the band of W'U⁻¹W and the vector
  W'U⁻¹μ for the window matrix W written from the definition (`wpwEntry`, `wpmEntry`), provided observations whose
  span leaves the frame range carry zero precision, which `MlpgAdjust::create` arranges (`Assemble.lean`; this is
  where the latent `break` of DESIGN.md F8 is shown harmless); the banded LDLᵀ solver, exactly as the code runs it,
  solves the system it is given whenever no pivot is zero, for every length and band width, and the pivots of a
  positive definite system are positive (`Ldl.lean`), which positive static precisions ensure (`MlpgMain.lean`); a
  solution of the normal equations with non-negative precisions maximises the Gaussian log-likelihood
  (`Likelihood.lean`); `MlpgMl.lean` closes the chain (`create_is_maximum_likelihood`).
-/
import Jb.Proofs.SynthBridge

namespace Jb.C05

variable {K : Type} [Field K] [LinearOrder K] [IsStrictOrderedRing K]

/-- Each frame takes the Gaussian of the state its duration assigns. -/
theorem frame_state {β : Type} (xs : List β) (durs : List Nat) (s f : Nat)
    (hs : s < xs.length) (hs' : s < durs.length)
    (hlo : (durs.take s).sum ≤ f) (hhi : f < (durs.take (s + 1)).sum) :
    (expand xs durs)[f]? = xs[s]? :=
  expand_spec xs durs s f hs hs' hlo hhi

theorem frame_count {β : Type} (xs : List β) (durs : List Nat) (h : durs.length ≤ xs.length) :
    (expand xs durs).length = durs.sum :=
  expand_length xs durs h

/-- Boundary distances are the voiced-run lengths on either side … -/
theorem boundary_distances (mask : List Bool) (f : Nat) (hf : f < mask.length) :
    (boundaryDistances mask)[f]? = some
      (if mask.getD f false then
        (((mask.take f).reverse.takeWhile id).length, ((mask.drop (f + 1)).takeWhile id).length)
       else (0, 0)) :=
  boundary_spec mask f hf

/-- … so a dynamic window (`lw` taps left, `rw` right) is ignored at frame `f` exactly when its span
    `[f − lw, f + rw]` touches an unvoiced frame or leaves the utterance. -/
theorem dynamic_ignored_iff (mask : List Bool) (f lw rw : Nat) (hf : f < mask.length) :
    (((mask.take f).reverse.takeWhile id).length < lw ∨ ((mask.drop (f + 1)).takeWhile id).length < rw) ↔
    ¬ ((lw ≤ f ∧ ∀ k, k < lw → mask.getD (f - 1 - k) false = true) ∧
       (f + rw < mask.length ∧ ∀ k, k < rw → mask.getD (f + 1 + k) false = true)) := by
  rw [left_cut_iff mask f lw hf, right_cut_iff mask f rw hf]
  exact not_and_or.symm

/-- Unvoiced frames carry the no-data marker, voiced frames the solution in order. -/
theorem fill_spec {β : Type} (mask : List Bool) (xs : List β) (d : β)
    (h : xs.length = (mask.filter id).length) :
    ∃ r, maskFill mask xs d = some r ∧ r.length = mask.length ∧ filterBy r mask = xs ∧
      ∀ f : Nat, mask[f]? = some false → r[f]? = some d :=
  maskFill_spec mask xs d h

/-- **The solver solves.** The model of `MlpgMatrix::solve` (LDLᵀ + substitutions as coded) returns `c` with
    `A c = r` for the symmetric band matrix `A` stored in `wuw` and `r = wum`, for every length and
    band width, provided no pivot is zero. -/
theorem solve_solves (m : MlpgMatrix K) (hw : 1 ≤ m.width) (hr : m.wum.length = m.wuw.length)
    (hrow : ∀ row ∈ m.wuw, row.length = m.width)
    (hpiv : ∀ t, t < m.wuw.length → bandAt (ldlRows m.width m.wuw) t 0 ≠ 0) :
    m.solve.length = m.wuw.length ∧
    ∀ t, t < m.wuw.length → bandMulVec m.width m.wuw m.solve t = m.wum.getD t 0 :=
  ldl_solves m.width hw m.wuw m.wum hr hrow hpiv

/-- **Pivots are positive** for a positive definite band matrix — so the solver never divides by zero on
    an MLPG system with positive static precisions. -/
theorem pivots_positive (w : Nat) (hw : 1 ≤ w) (rows : List (List K)) (hrow : ∀ row ∈ rows, row.length = w)
    (hpd : ∀ x : List K, x.length = rows.length → (∃ t, t < rows.length ∧ x.getD t 0 ≠ 0) → 0 < bandQuad w rows x) :
    ∀ t, t < rows.length → 0 < bandAt (ldlRows w rows) t 0 :=
  ldl_pivots_pos w hw rows hrow hpd

set_option linter.unusedSectionVars false in
/-- The `none` arm of the model's `MlpgMatrix.par`, by definition: without GV the generated parameter sequence is
    that solution. -/
theorem par_no_gv (m : MlpgMatrix K) [Transc K] [Consts K] [MlpgConsts K] (vi : Nat) (w : K) (durs : List Nat) (mask : List Bool) :
    m.par none vi w durs mask = m.solve :=
  MlpgMatrix.par_none m vi w durs mask

/-- **Normal equations ⇒ maximum likelihood.** -/
theorem normal_equations_maximise {n : Nat} (obs : List (Obs K n)) (hp : ∀ o ∈ obs, 0 ≤ o.prec)
    (c : Fin n → K) (hc : ∀ t, normalResidual obs c t = 0) (c' : Fin n → K) :
    loglik obs c' ≤ loglik obs c :=
  normal_eq_is_max obs hp c hc c'

/-- **Band assembly.** Row `t` of `calc_wuw_and_wum` is `(W'PW)[t][t+j]`, `0 ≤ j < width`, and `(W'Pμ)[t]`. -/
theorem assembles_normal_equations [Transc K] [Consts K] [MlpgConsts K]
    (windows : List (List K)) (obs : List (List (MeanVari K))) (T width t : Nat)
    (ht : t < T) (hw : ∀ w ∈ windows, w.length ≤ width) (hobs : ∀ o ∈ obs, o.length = T)
    (hedge : EdgeZero windows obs T) :
    (wuwRow windows obs T width t).2 = wpmEntry windows obs T t ∧
    (wuwRow windows obs T width t).1.length = width ∧
    ∀ j, j < width → t + j < T → (wuwRow windows obs T width t).1.getD j 0 = wpwEntry windows obs T t (t + j) :=
  wuwRow_eq windows obs T width t ht hw hobs hedge

/-- **MLPG solves the normal equations, end to end.** For windows whose first is the static window `[1]`,
    non-negative precisions, positive static precisions and zero precision on observations whose span leaves
    the frame range, the matrix `calc_wuw_and_wum` builds is positive definite, no pivot vanishes, and
    `solve` returns `c` with `(W'PW) c = W'Pμ` — `W'PW` and `W'Pμ` written from the definition. -/
theorem solves_normal_equations [Transc K] [Consts K] [MlpgConsts K]
    (windows : List (List K)) (obs : List (List (MeanVari K))) (T : Nat)
    (hstatic : windows.head? = some [1]) (hlen : windows.length = obs.length)
    (hobs : ∀ o ∈ obs, o.length = T) (hedge : EdgeZero windows obs T)
    (hnonneg : ∀ o ∈ obs, ∀ mv ∈ o, 0 ≤ mv.vari) (hpos : ∀ mv ∈ obs.headD [], 0 < mv.vari)
    (m : MlpgMatrix K) (hm : calcWuwWum windows obs = some m) :
    m.solve.length = T ∧
    ∀ t, t < T →
      ((Finset.range T).sum fun t' => wpwEntry windows obs T t t' * m.solve.getD t' 0) = wpmEntry windows obs T t :=
  mlpg_solves_normal_equations windows obs T hstatic hlen hobs hedge hnonneg hpos m hm

/-- **The solver output is the maximum-likelihood sequence** — over every other sequence, for the scalar
    observations `obsOf` written from the definition (one per window and frame). -/
theorem solution_maximises_likelihood [Transc K] [Consts K] [MlpgConsts K]
    (windows : List (List K)) (obs : List (List (MeanVari K))) (T : Nat)
    (hstatic : windows.head? = some [1]) (hlen : windows.length = obs.length)
    (hobs : ∀ o ∈ obs, o.length = T) (hedge : EdgeZero windows obs T)
    (hnonneg : ∀ o ∈ obs, ∀ mv ∈ o, 0 ≤ mv.vari) (hpos : ∀ mv ∈ obs.headD [], 0 < mv.vari)
    (m : MlpgMatrix K) (hm : calcWuwWum windows obs = some m) (c' : Fin T → K) :
    loglik (obsOf windows obs T) c' ≤ loglik (obsOf windows obs T) (fun t => m.solve.getD t.val 0) :=
  mlpg_maximises_likelihood ⟨hstatic, hlen, hobs, hedge, hnonneg, hpos⟩ m hm c'

/-- **Edge precisions.** The observation sequences the model of `MlpgAdjust::create` builds (compacted to the voiced
    frames) carry zero precision wherever a window's span leaves the voiced frames — the hypothesis of the
    assembly theorem holds by construction. -/
theorem create_edge_precisions_zero [Transc K] [Consts K] [MlpgConsts K]
    (veclen : Nat) (stream : List (StateParam K)) (thr : K) (durs : List Nat)
    (windows : List (List K)) (m : Nat) (hstatic : windows.head? = some [1]) (hd : durs.length ≤ stream.length) :
    EdgeZero windows (createObs veclen stream durs (maskCreate stream thr durs) windows m)
      ((maskCreate stream thr durs).filter id).length :=
  windowParams_edgeZero veclen stream thr durs windows m hstatic hd

/-- **C05, end to end.** What the model of `MlpgAdjust::create` returns for a stream without GV is, column by
    column and restricted to the voiced frames, the maximum-likelihood static sequence for the state
    Gaussians its durations assign and the voice's windows — better than or equal to every other sequence.
    Hypotheses: first window static `[1]`, precisions (after `with_ivar`) non-negative, static ones positive. -/
theorem create_is_maximum_likelihood [Transc K] [Consts K] [MlpgConsts K]
    (gvWeight thr : K) (s : StreamIn K) (durs : List Nat)
    (hgv : s.gv = none) (hstatic : s.windows.head? = some [1]) (hd : durs.length ≤ s.stream.length)
    (hnonneg : ∀ st ∈ s.stream, ∀ p ∈ st.params, 0 ≤ (withIvar p).vari)
    (hdflt : 0 ≤ (withIvar (⟨0, 0⟩ : MeanVari K)).vari)
    (hpos : ∀ st ∈ s.stream, ∀ m, m < s.vectorLength → 0 < (withIvar (st.params.getD m ⟨0, 0⟩)).vari)
    (traj : List (List K)) (h : mlpgCreate gvWeight thr s durs = .ok traj) (m : Nat) (hm : m < s.vectorLength) :
    let mask := maskCreate s.stream thr durs
    let T := (mask.filter id).length
    let obs := createObs s.vectorLength s.stream durs mask s.windows m
    let col := filterBy (traj.map fun r => r.getD m 0) mask
    col.length = T ∧
    ∀ c' : Fin T → K, loglik (obsOf s.windows obs T) c' ≤ loglik (obsOf s.windows obs T) (fun t => col.getD t.val 0) :=
  mlpgCreate_is_ml gvWeight thr s durs hgv hstatic hd hnonneg hdflt hpos traj h m hm

/-- … and the model of `create` does return a trajectory (one row per frame) on every well-formed stream, so the
    statement above is about something: existence and optimality together. (`StreamWF` does not exclude an empty
    dynamic window, on which the model computes a right width 0 and the Rust `Window::right_width` panics.) -/
theorem create_total_and_ml [FloorRing K] [Transc K] [Consts K] [MlpgConsts K]
    (gvWeight thr : K) (s : StreamIn K) (durs : List Nat)
    (hwf : StreamWF s) (hgv : s.gv = none) (hstatic : s.windows.head? = some [1]) (hd : durs.length ≤ s.stream.length)
    (hnonneg : ∀ st ∈ s.stream, ∀ p ∈ st.params, 0 ≤ (withIvar p).vari)
    (hdflt : 0 ≤ (withIvar (⟨0, 0⟩ : MeanVari K)).vari)
    (hpos : ∀ st ∈ s.stream, ∀ m, m < s.vectorLength → 0 < (withIvar (st.params.getD m ⟨0, 0⟩)).vari) :
    ∃ traj, mlpgCreate gvWeight thr s durs = .ok traj ∧ traj.length = durs.sum ∧
      ∀ m, m < s.vectorLength →
        let mask := maskCreate s.stream thr durs
        let T := (mask.filter id).length
        let obs := createObs s.vectorLength s.stream durs mask s.windows m
        let col := filterBy (traj.map fun r => r.getD m 0) mask
        col.length = T ∧
        ∀ c' : Fin T → K, loglik (obsOf s.windows obs T) c' ≤ loglik (obsOf s.windows obs T) (fun t => col.getD t.val 0) := by
  obtain ⟨traj, h, hl, _⟩ := mlpgCreate_shape gvWeight thr s durs hwf hd (by simp [hgv])
  exact ⟨traj, h, hl, fun m hm =>
    mlpgCreate_is_ml gvWeight thr s durs hgv hstatic hd hnonneg hdflt hpos traj h m hm⟩

/-- a positive variance inside the representable range becomes a positive precision -/
theorem precision_positive [Transc K] [Consts K] [MlpgConsts K] (p : MeanVari K)
    (h0 : 0 < (MlpgConsts.ivarMax : K)) (hv : 0 < p.vari) (hhi : p.vari ≤ MlpgConsts.ivarHi) :
    0 < (withIvar p).vari := by
  unfold withIvar absS
  rw [if_neg (not_lt.mpr hv.le)]
  dsimp only
  rw [if_neg (not_lt.mpr hhi)]
  split_ifs
  · exact h0
  · exact one_div_pos.mpr hv

/-! Non-vacuity: a 3-frame, half-bandwidth-1 system over ℚ with the non-zero pivots 2, 5/2, 18/5 (the heads of
    the rows in `hl` below); the solution is the exact rational one. -/
def exM : MlpgMatrix ℚ := { winSize := 2, length := 3, width := 2, wuw := [[2, 1], [3, 1], [4, 0]], wum := [1, 2, 3] }

example : exM.solve = [1 / 3, 1 / 3, 2 / 3] := by
  -- evaluated stage by stage: the kernel would recompute the factor at each of its uses in `solve`
  have hl : ldlRows 2 exM.wuw = [[2, 1 / 2], [5 / 2, 2 / 5], [18 / 5, 0]] := by decide +kernel
  have hg : forwardSub 2 [[2, 1 / 2], [5 / 2, 2 / 5], [18 / 5, 0]] exM.wum = [1, 3 / 2, 12 / 5] := by
    decide +kernel
  show backwardSub 2 (ldlRows 2 exM.wuw) (forwardSub 2 (ldlRows 2 exM.wuw) exM.wum) = _
  rw [hl, hg]
  decide +kernel

/-! Non-vacuity of `create_total_and_ml`: a two-state stream over ℚ with a static and a delta window meets
    every hypothesis. -/
section Example
local instance : Transc ℚ := ⟨id, id, id, id, fun x _ => x⟩
local instance : Consts ℚ := ⟨10, 3, 1 / 17, 1 / 9, -10000000000, 3, 1 / 10 ^ 100⟩
local instance : MlpgConsts ℚ := ⟨10 ^ 19, 1 / 10 ^ 19, 10 ^ 38⟩

def exS : StreamIn ℚ :=
  { vectorLength := 1, gv := none, windows := [[1], [-1 / 2, 0, 1 / 2]],
    stream := [⟨[⟨1, 1⟩, ⟨0, 2⟩], 1⟩, ⟨[⟨3, 1 / 2⟩, ⟨1, 4⟩], 1⟩] }

example : StreamWF exS ∧ exS.gv = none ∧ exS.windows.head? = some [1] ∧ [2, 1].length ≤ exS.stream.length ∧
    (∀ st ∈ exS.stream, ∀ p ∈ st.params, 0 ≤ (withIvar p).vari) ∧
    0 ≤ (withIvar (⟨0, 0⟩ : MeanVari ℚ)).vari ∧
    (∀ st ∈ exS.stream, ∀ m, m < exS.vectorLength → 0 < (withIvar (st.params.getD m ⟨0, 0⟩)).vari) := by
  refine ⟨⟨by decide, by decide +kernel⟩, rfl, rfl, by decide, ?_, ?_, ?_⟩ <;> decide +kernel
end Example

/-- **C05 from the voice files** (statement: `Synth.params_maximum_likelihood`). On a well-formed voice set, for a stream `j`
    whose stage input (`Models::model_stream(j)`) has no GV, a static first window and positive static variances, the
    trajectory `Engine::generator` hands to the vocoder is `mlpgCreate` of that stage input and the library's durations, has
    one row per frame, and every column restricted to the voiced frames maximises the Gaussian log-likelihood — the
    conclusion of `create_total_and_ml`, with well-formedness of the stream and the duration count derived from the voices. -/
alias library_trajectory_is_ml := Synth.params_maximum_likelihood

end Jb.C05
