/-
  C13 — the LSP synthesis filter realises the model spectrum.  **Partial.**

  Theorems (ordered field): `lsp2lpc` (repaired) reads the line spectral frequencies only — the gain
  element does not enter it (the pinned commit fed the gain in as the first frequency: fix 3dba546);
  `gc2gc` between equal γ is truncation, so for the vocoder's equal-α, equal-γ call `mgc2mgc` reduces
  to normalisation round trips; `ignorm ∘ gnorm = id` when the power function is; the MGLSA filter is
  the `stage`-fold cascade of one section.
  `lsp2lpc` returns exactly the coefficient list of A(z) = ½(P(z)+Q(z)) built by polynomial multiplication of
  the second-order sections (even and odd orders) — `Jb/Proofs/LspPoly.lean`.
  For **every α** (`Jb/Proofs/MglsaWarp.lean`, `LspWarp.lean`): the filter is `stage` identical sections in cascade; one
  section computes `x = y + Σ_{k≥1} c_k Φ_k(y)` (Φ_k the warped basis), which for the coefficients the vocoder derives from
  an LSP frame is `(1+γb₀)·x = (1+γ·mgc₀)·A(z̃) y` with `A = ½(P+Q)` evaluated in the warped delay `z̃⁻¹` — the section is
  `κ / A(z̃)` (`section_is_warped_all_pole`), the filter is `stage` of them (`filter_is_stage_sections`), and the gain
  relation ties `c[0]·κ^stage` to `K` (`gains_multiply_to_K`).  These are the pieces of the property's transfer function
  `K / A(z̃)^stage` for every α, order and stage; their composition over the cascade, and the factor `c[0]` that
  `vocoderSynth` puts on the excitation, are not theorems here.
  Not proved: the analytic clause |ln|H| − ln(K/|A|^s)| ≤ 0.001 neper, decided on
  every run against A(z) built by polynomial multiplication in the driver.
-/
import Jb.Proofs.LspWarp

set_option linter.unusedSectionVars false

namespace Jb.C13

variable {K : Type} [Field K] [LinearOrder K] [IsStrictOrderedRing K] [Transc K] [Consts K]

/-- the repaired `lsp2lpc` does not read the gain element -/
theorem lsp2lpc_ignores_gain (b : Bool) (g g' : K) (w : List K) :
    lsp2lpc ⟨b, true⟩ (g :: w) = lsp2lpc ⟨b, true⟩ (g' :: w) :=
  (lsp2lpc_poly b g w).trans (lsp2lpc_poly b g' w).symm

/-- the result starts with 1 -/
theorem lsp2lpc_head (fx : Fix) (v : List K) : (lsp2lpc fx v).head? = some 1 :=
  rfl

theorem gc2gc_same (c : List K) (g : K) (m : Nat) (hm : m < c.length) : gc2gc c g m g = c.take (m + 1) :=
  gc2gc_same_gamma c g m hm

theorem normalisation_roundtrip (gamma : K) (hg : gamma ≠ 0) (c0 : K) (rest : List K)
    (hk : 1 + gamma * c0 ≠ 0)
    (hpow : Transc.pow (Transc.pow (1 + gamma * c0) (1 / gamma)) gamma = 1 + gamma * c0) :
    ignorm gamma (gnorm gamma (c0 :: rest)) = c0 :: rest :=
  ignorm_gnorm gamma hg c0 rest hk hpow

/-- one sample of the MGLSA filter is the first section, then the remaining sections on its output: the filter is
    the cascade of `stage` identical sections -/
theorem stage_cascade (d : List K) (ds : List (List K)) (x alpha : K) (c : List K) :
    mglsaDf (d :: ds) x alpha c =
      (let r := mglsaDff d x alpha c
       let r2 := mglsaDf ds r.1 alpha c
       (r2.1, r.2 :: r2.2)) :=
  mglsaDf_cons d ds x alpha c

/-- γ = −1/stage -/
theorem stage_gamma (nmcp nlpf stage : Nat) (hs : stage ≠ 0) (lg : Bool) (rate : Nat) (a b vol : K) (fp : Nat) :
    (VocoderSt.new nmcp nlpf stage lg rate a b vol fp : VocoderSt K).gamma = -(1 : K) / (stage : K) := by
  simp [VocoderSt.new, hs]

/-- Increasing, well-separated frequencies (spacing and margins at least π/(4·len)) pass the stability
    check unchanged. -/
theorem well_separated_unchanged (v : List K) (h : LspStable v) : checkLspStability v = v := by
  obtain ⟨h1, h2, h3⟩ := h
  unfold checkLspStability
  by_cases hn : v.length = 0
  · exact if_pos hn
  · -- the first pass changes nothing and finds nothing, so the loop stops
    refine (if_neg hn).trans (checkLspStability_go_fixed _ v ?_ 4)
    have c2 : ¬ (v.getD 1 0 < lspMin v.length ∧ 1 < v.length) := fun hc => h2 hc.2 hc.1
    have hf : ∀ j0 ∈ List.range (v.length - 1 - 1), ¬ (v.getD (j0 + 1 + 1) 0 - v.getD (j0 + 1) 0 < lspMin v.length) :=
      fun j0 hj0 => h1 (j0 + 1) (by omega) (by have := List.mem_range.1 hj0; omega)
    unfold lspMin at c2 h3 hf
    dsimp only
    rw [foldl_fixed _ _ _ fun j0 hj0 => by dsimp only; rw [if_neg (hf j0 hj0)]]
    dsimp only
    rw [if_neg c2, if_neg h3]

/-- **`lsp2lpc` = ½(P + Q)**: the LPC polynomial whose line spectral frequencies are the given ones. -/
theorem lpc_polynomial (b : Bool) (g : K) (lsp : List K) :
    lsp2lpc ⟨b, true⟩ (g :: lsp) = lspRefPoly lsp :=
  lsp2lpc_poly b g lsp

/-- **The pulse response determines the filter** (LSP / MGLSA family): with frozen coefficients the cascade of
    `stage` sections is linear and time-invariant, so its output on any excitation is the convolution of the
    excitation with the response to one pulse. -/
theorem response_is_convolution (alpha : K) (c : List K) (stage : Nat) (xs : List K) (n : Nat) (hn : n < xs.length) :
    (mglsaRun alpha c (mglsaInit stage c.length) xs).getD n 0 =
      (Finset.range (n + 1)).sum fun k => (mglsaPulse alpha c stage xs.length).getD k 0 * xs.getD (n - k) 0 :=
  (mglsaRun_isLTI alpha c stage).convolution xs n hn

-- `hmin` is not used by the proof
set_option linter.unusedVariables false in
/-- **At `alpha = 0` the filter coefficients are `[K, a₁ … a_m]`** with `a` the coefficients of `½(P + Q)` and `K` the
    (floored) gain: the whole chain `lsp2lpc → ignorm → ·(−stage) → gnorm → gc2gc → ignorm → mc2b → gnorm → ·γ`
    collapses (hypotheses: the two laws of `powf` that are used, for the positive gain). -/
theorem coefficients_are_gain_and_lpc (b useLogGain : Bool) (stage : Nat) (hs : stage ≠ 0) (g : K) (lsp : List K)
    (hmin : 0 < (Consts.minGain : K))
    (hpow : Transc.pow (Transc.pow (lspGain useLogGain g) (-1 / (stage : K))) (1 / (-1 / (stage : K))) = lspGain useLogGain g)
    (hne : Transc.pow (lspGain useLogGain g) (-1 / (stage : K)) ≠ 0) :
    lspCoefficients ⟨b, true⟩ useLogGain stage (-1 / (stage : K)) 0 (g :: lsp) =
      lspGain useLogGain g :: (lspRefPoly lsp).tail := by
  have hs' : (stage : K) ≠ 0 := Nat.cast_ne_zero.2 hs
  have hγ : (-1 / (stage : K)) ≠ 0 := div_ne_zero (by simp) hs'
  unfold lspCoefficients
  -- `·(−stage·κ)`, `/κ`, `·γ` undo one another, `κ = K^γ`
  have hx : ∀ κ : K, κ ≠ 0 → ∀ x : K, x * (-(stage : K) * κ) / κ * (-1 / (stage : K)) = x := by
    intro κ hκ x
    field_simp
  rw [lsp2mgc_eq b useLogGain stage _ hγ g lsp hpow hne, mc2b_zero, gnorm_cons _ hγ, mul_div_cancel₀ _ hγ,
    add_sub_cancel, hpow]
  simp only [List.map_map]
  exact congrArg _ ((List.map_congr_left fun x _ => hx _ hne x).trans (List.map_id _))

/-- **At `alpha = 0` the cascade is `1 / C(z)^stage`, `C(z) = 1 + Σ_{k≥1} c[k] z⁻ᵏ`**: each section computes the
    all-pole difference equation `y[n] = x[n] − Σ_{k≥1} c[k]·y[n−k]`, and `stage` sections iterate it. With the
    coefficients `[K, a₁ … a_m]` of `coefficients_are_gain_and_lpc` this is `1 / A(z)^stage`, `A = ½(P + Q)`; the
    factor `K = c[0]`, which `vocoderSynth` puts on the excitation, is outside the statement. -/
theorem cascade_is_all_pole (c : List K) (hc : 2 ≤ c.length) (stage : Nat) (xs : List K) :
    mglsaRun 0 c (mglsaInit stage c.length) xs = (allPoleRun c.tail)^[stage] xs := by
  rw [mglsaRun_sections, funext (dffRun_allpole c hc)]

/-- the filter is the `stage`-fold iteration of one section (from rest) -/
theorem filter_is_stage_sections (alpha : K) (c : List K) (stage : Nat) (xs : List K) :
    mglsaRun alpha c (mglsaInit stage c.length) xs = (dffRun alpha c (List.replicate c.length 0))^[stage] xs :=
  mglsaRun_sections alpha c stage xs

/-- **one section inverts `1 + Σ_{k≥1} c_k Φ_k`**: input `x` and output `y` satisfy `x = y + Σ c_k Φ_k(y)`, with `Φ_k`
    the basis of the warped delay line — for every `α` and every order. -/
theorem section_inverts_warped_polynomial (alpha : K) (c : List K) (hc : 2 ≤ c.length) (xs : List K) (n : Nat)
    (hn : n < xs.length) :
    xs.getD n 0 = (dffRun alpha c (List.replicate c.length 0) xs).getD n 0 +
      (Finset.Ico 1 c.length).sum fun k =>
        c.getD k 0 * (warpBasis alpha (dffRun alpha c (List.replicate c.length 0) xs) k).getD n 0 :=
  dffRun_warp alpha c hc xs n hn

-- `hmin` is not used by the proof
set_option linter.unusedVariables false in
/-- **one section of the LSP vocoder is `κ / A(z̃)`**, `A = ½(P+Q)` read in the warped delay `z̃⁻¹`, for every `α`:
    `(1+γb₀)·x[t] = (1+γ·mgc₀)·Σ_m a_m (z̃^{-m} y)[t]` (hypotheses: the two `powf` laws used for the positive gain, and
    the non-zero normalisation factor the code divides by). -/
theorem section_is_warped_all_pole (b useLogGain : Bool) (stage : Nat) (hs : stage ≠ 0) (alpha g : K) (lsp : List K)
    (hl : 1 ≤ lsp.length) (hmin : 0 < (Consts.minGain : K))
    (hpow : Transc.pow (Transc.pow (lspGain useLogGain g) (-1 / (stage : K))) (1 / (-1 / (stage : K))) = lspGain useLogGain g)
    (hne : Transc.pow (lspGain useLogGain g) (-1 / (stage : K)) ≠ 0)
    (hb0 : 1 + (-1 / (stage : K)) *
        (mc2b alpha (lsp2mgc ⟨b, true⟩ useLogGain stage (-1 / (stage : K)) (g :: lsp))).getD 0 0 ≠ 0)
    (xs : List K) (t : Nat) (ht : t < xs.length) :
    let gamma : K := -1 / (stage : K)
    let mgc := lsp2mgc ⟨b, true⟩ useLogGain stage gamma (g :: lsp)
    let c := lspCoefficients ⟨b, true⟩ useLogGain stage gamma alpha (g :: lsp)
    let ys := dffRun alpha c (List.replicate c.length 0) xs
    (1 + gamma * (mc2b alpha mgc).getD 0 0) * xs.getD t 0 =
      (1 + gamma * mgc.getD 0 0) * warpPoly alpha (lspRefPoly lsp) ys t := by
  intro gamma mgc c ys
  have hs' : (stage : K) ≠ 0 := Nat.cast_ne_zero.2 hs
  have hγ : gamma ≠ 0 := div_ne_zero (by simp) hs'
  obtain ⟨a, ha, -⟩ := lspRefPoly_cons lsp
  have hlen : mgc.length = lsp.length + 1 := by
    show (lsp2mgc _ _ _ _ (g :: lsp)).length = _
    rw [lsp2mgc_length]; rfl
  -- the section in terms of `mgc`, then `mgc` in closed form
  have hsec := section_gc gamma alpha mgc _ rfl (by omega) hb0
    (Transc.pow (1 + gamma * (mc2b alpha mgc).getD 0 0) (1 / gamma)) xs t ht
  rw [← lspCoefficients_eq ⟨b, true⟩ useLogGain stage gamma alpha hγ (g :: lsp)] at hsec
  have hmgc := lsp2mgc_eq b useLogGain stage gamma hγ g lsp hpow hne
  rw [ha, List.tail_cons] at hmgc
  simp only at hsec
  rw [hsec]
  simp only [mgc, hmgc, ha, List.getD_cons_zero]
  refine warpPoly_collapse alpha gamma _ _ ?_ a _ t
  -- its hypothesis `γ·r = 1 + γ·m₀` here: `γ·(−stage·κ) = κ`, which is `γ = −1/stage`
  rw [mul_div_cancel₀ _ hγ, add_sub_cancel]
  generalize Transc.pow (lspGain useLogGain g) gamma = κ
  simp only [gamma]
  field_simp

-- `hv`, `hb0` are not used by the proof
set_option linter.unusedVariables false in
/-- **the gains multiply up to `K`**: the excitation gain `c[0]` times `κ^stage` is `(1+γ·mgc₀)^{1/γ}`, which the
    `α = 0` collapse (`coefficients_are_gain_and_lpc`) identifies with the floored gain `K`. -/
theorem gains_multiply_to_K (fx : Fix) (useLogGain : Bool) (stage : Nat) (gamma alpha : K) (hg : gamma ≠ 0) (v : List K)
    (hv : 1 ≤ v.length)
    (hb0 : 1 + gamma * (mc2b alpha (lsp2mgc fx useLogGain stage gamma v)).getD 0 0 ≠ 0)
    (hm0 : 1 + gamma * (lsp2mgc fx useLogGain stage gamma v).getD 0 0 ≠ 0)
    (hp1 : Transc.pow (1 + gamma * (mc2b alpha (lsp2mgc fx useLogGain stage gamma v)).getD 0 0) (1 / gamma) *
        (1 + gamma * (mc2b alpha (lsp2mgc fx useLogGain stage gamma v)).getD 0 0) ^ stage = 1)
    (hp2 : Transc.pow (1 + gamma * (lsp2mgc fx useLogGain stage gamma v).getD 0 0) (1 / gamma) *
        (1 + gamma * (lsp2mgc fx useLogGain stage gamma v).getD 0 0) ^ stage = 1) :
    (lspCoefficients fx useLogGain stage gamma alpha v).getD 0 0 =
        Transc.pow (1 + gamma * (mc2b alpha (lsp2mgc fx useLogGain stage gamma v)).getD 0 0) (1 / gamma) ∧
    (lspCoefficients fx useLogGain stage gamma alpha v).getD 0 0 *
        ((1 + gamma * (mc2b alpha (lsp2mgc fx useLogGain stage gamma v)).getD 0 0) /
          (1 + gamma * (lsp2mgc fx useLogGain stage gamma v).getD 0 0)) ^ stage =
      Transc.pow (1 + gamma * (lsp2mgc fx useLogGain stage gamma v).getD 0 0) (1 / gamma) := by
  have hc : (lspCoefficients fx useLogGain stage gamma alpha v).getD 0 0 =
      Transc.pow (1 + gamma * (mc2b alpha (lsp2mgc fx useLogGain stage gamma v)).getD 0 0) (1 / gamma) := by
    rw [lspCoefficients_eq _ _ _ _ _ hg, List.getD_cons_zero]
  exact ⟨hc, hc.symm ▸ gain_algebra _ _ _ _ stage hm0 hp1 hp2⟩

end Jb.C13
