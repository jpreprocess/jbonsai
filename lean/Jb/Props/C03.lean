/-
  C03 — synthesis is a deterministic pure function, safe to share across threads.

  Theorems: (i) schedule irrelevance for call-local state machines over one shared read-only
  environment — the abstract content of "safe to share", stated for an arbitrary step function and not
  instantiated with a function of the model: whatever interleaving a scheduler picks, every
  caller gets the outputs and final state it gets running alone; (ii) synthesis is a *function* of
  (condition, stage inputs) in the model — a remark about the model being a Lean function
  (`equal_condition_equal_waveform` is congruence): repeating or cloning (equal value) cannot change what
  it returns, and it returns no new engine value at all;
  (iii) a setter history has the effect of its last calls, one per setting (`lastCalls`), two histories
  with the same last calls in the same order leave the same condition, and two calls on different
  settings commute (no theorem reorders more than two calls).
  What no theorem here can exhibit — real thread interleavings, data races, hidden statics — is
  **partial**: carried by Rust's type system (`Engine: Send + Sync` is a compile-time assertion in the
  harness; a source scan for interior mutability is recorded in the evidence) and by running 2..16
  threads on one shared engine and comparing bitwise with the sequential run.
-/
import Jb.Proofs.Sys
import Jb.Model.Engine
import Jb.Proofs.Field  -- the `RoundNat` instance `engineSynthesize` needs

set_option linter.unusedSectionVars false

namespace Jb.C03

/-- **Schedule irrelevance.** Whatever the interleaving, caller `i` produces exactly the outputs it
    produces running alone for as many steps as it was scheduled, and ends in the same local state.
    The abstract fact, for any `step` over a read-only `env`; no function of the model is put in for `step`. -/
theorem schedule_irrelevant {E S O : Type} (step : E → S → S × O) (env : E) (sts : List S) (sched : List Nat)
    (i : Nat) (s : S) (hs : sts[i]? = some s) :
    ((interleave step env sts sched).2.filter (fun p => p.1 == i)).map (·.2) =
      (runAlone step env s (sched.count i)).2 ∧
    (interleave step env sts sched).1[i]? = some (runAlone step env s (sched.count i)).1 :=
  interleave_runAlone step env sts sched i s hs

/-- two schedules that give caller `i` the same number of steps give it the same outputs -/
theorem schedules_agree {E S O : Type} (step : E → S → S × O) (env : E) (sts : List S) (σ τ : List Nat)
    (i : Nat) (s : S) (hs : sts[i]? = some s) (hc : σ.count i = τ.count i) :
    ((interleave step env sts σ).2.filter (fun p => p.1 == i)).map (·.2) =
    ((interleave step env sts τ).2.filter (fun p => p.1 == i)).map (·.2) := by
  rw [(schedule_irrelevant step env sts σ i s hs).1, (schedule_irrelevant step env sts τ i s hs).1, hc]

variable {K : Type} [Field K] [LinearOrder K] [IsStrictOrderedRing K] [Transc K] [Consts K]

/-- **History irrelevance.** Only the last call on each setting matters … -/
theorem setters_last_wins (c : Condition K) (ops : List (CondOp K)) :
    applyHistory c ops = applyHistory c (lastCalls ops) := by
  simp only [applyHistory_eq_foldl]
  induction ops generalizing c with
  | nil => rfl
  | cons op rest ih =>
    unfold lastCalls
    split_ifs with h
    · rw [List.foldl_cons, stepC_absorb op rest c h]
      exact ih c
    · rw [List.foldl_cons, List.foldl_cons]
      exact ih _

/-- … so two histories with the same last calls in the same order (`lastCalls h1 = lastCalls h2` is equality of
    lists) leave the same condition, … -/
theorem same_last_calls_same_condition (c : Condition K) (h1 h2 : List (CondOp K))
    (h : lastCalls h1 = lastCalls h2) : applyHistory c h1 = applyHistory c h2 := by
  rw [setters_last_wins c h1, setters_last_wins c h2, h]

/-- … and two calls on different settings commute (the two-call case of reordering the last calls). -/
theorem setters_commute (c : Condition K) (a b : CondOp K) (h : a.key ≠ b.key) :
    applyHistory c [a, b] = applyHistory c [b, a] :=
  stepC_comm c a b h

/-- Equal conditions synthesize equally (congruence: synthesis is a function of the condition value,
    the voice-derived inputs and the labels — it has no other input and returns no new engine). -/
theorem equal_condition_equal_waveform [FloorRing K] [MlpgConsts K] (fx : Fix) (c c' : Condition K)
    (b : Bool) (inp : EngineIn K) (h : c = c') :
    engineSynthesize fx c b inp = engineSynthesize fx c' b inp := by rw [h]

end Jb.C03
