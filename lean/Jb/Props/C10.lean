/-
  C10 — voice interpolation is the weighted average.
  Model: `weighted`, `ModelParameter.mul`, `mulAddAssign` in `Jb/Model/Weights.lean`.
-/
import Jb.Proofs.Weights
import Jb.Proofs.SynthLemmas

set_option linter.unusedSectionVars false

namespace Jb.C10

variable {K : Type} [Field K] [LinearOrder K] [IsStrictOrderedRing K]

/-- all Gaussian lists have `n` entries -/
def Uniform (ps : List (ModelParameter K)) (n : Nat) : Prop := ∀ p ∈ ps, p.parameters.length = n

/-- With one weight per voice and equally shaped Gaussians, `weighted` never panics, returns `n`
    Gaussians, and every mean and variance is the weighted sum over the voices. -/
theorem weighted_eq_sum (ws : List K) (ps : List (ModelParameter K)) (n : Nat)
    (hne : ps ≠ []) (hlen : ws.length = ps.length) (hu : Uniform ps n) :
    ∃ r, weighted ws ps = .ok r ∧ r.parameters.length = n ∧
      ∀ j, j < n →
        (r.parameters.getD j ⟨0, 0⟩).mean =
          ((ws.zip ps).map fun x => x.1 * (x.2.parameters.getD j ⟨0, 0⟩).mean).sum ∧
        (r.parameters.getD j ⟨0, 0⟩).vari =
          ((ws.zip ps).map fun x => x.1 * (x.2.parameters.getD j ⟨0, 0⟩).vari).sum := by
  obtain _ | ⟨p, ps⟩ := ps
  · exact absurd rfl hne
  obtain _ | ⟨w, ws⟩ := ws
  · cases hlen
  obtain ⟨h1, h2⟩ := mixInto_parameters ps ws (p.mul w)
    ((ModelParameter.mul_length p w).trans (hu p List.mem_cons_self))
    fun p' hp' => hu p' (List.mem_cons_of_mem _ hp')
  refine ⟨_, weighted_cons w ws p ps, h1, fun j _ => ?_⟩
  rw [(h2 j).1, (h2 j).2, (ModelParameter.mul_getD p w j).1, (ModelParameter.mul_getD p w j).2]
  -- first voice plus the sum over the rest is the sum over the cons
  simp only [List.zip_cons_cons, List.map_cons, List.sum_cons, and_self]

/-- … and so is the voicing weight when every voice has one. -/
theorem weighted_msd (ws : List K) (ps : List (ModelParameter K)) (ms : List K)
    (hne : ps ≠ []) (hlen : ws.length = ps.length) (hm : ps.map (·.msd) = ms.map some) :
    ∃ r, weighted ws ps = .ok r ∧ r.msd = some ((ws.zip ms).map fun x => x.1 * x.2).sum := by
  obtain _ | ⟨p, ps⟩ := ps
  · exact absurd rfl hne
  obtain _ | ⟨w, ws⟩ := ws
  · cases hlen
  obtain _ | ⟨m, ms⟩ := ms
  · cases hm
  obtain ⟨hm1, hm2⟩ := List.cons.inj hm
  refine ⟨_, weighted_cons w ws p ps, ?_⟩
  rw [mixInto_msd ps ws ms (p.mul w) (w * m) (by simp [ModelParameter.mul, hm1]) hm2]
  rfl

/-- Weights (1,0,…,0) reproduce the first voice alone, exactly (whatever the other voices are). -/
theorem weighted_vertex (p : ModelParameter K) (ps : List (ModelParameter K)) :
    weighted (1 :: List.replicate ps.length 0) (p :: ps) = .ok p := by
  rw [weighted_cons, mixInto_zero, ModelParameter.mul_one_eq]

/-- Blending identical voices with weights summing to 1 reproduces the single voice. -/
theorem weighted_identical (q : ModelParameter K) (ws : List K) (k : Nat) (hk : ws.length = k + 1)
    (hs : ws.sum = 1) : weighted ws (List.replicate (k + 1) q) = .ok q := by
  obtain _ | ⟨w, ws⟩ := ws
  · cases hk
  obtain rfl : ws.length = k := Nat.succ.inj hk
  rw [List.replicate_succ, weighted_cons, mixInto_identical, ← List.sum_cons, hs, ModelParameter.mul_one_eq]

set_option linter.unusedVariables false in
/-- Each quantity reads its own weight vector: updating another quantity's weights leaves it alone
    (frame property of the three setters). The well-formedness hypothesis is not needed. -/
theorem which_weights (eps : K) (iw s : IW K) (op : IWOp K) (q : Quantity) (ns : Nat) (hwf : iw.WF ns)
    (h : IWOp.apply eps iw op = .ok s) (hq : q ≠ op.target) : s.select q = iw.select q :=
  (IWOp.apply_ok_select eps iw s op h).2 q hq

/-- **Which weights, at the composition level.** In the whole-library model (`Jb/Model/Synth.lean`)
    `Models::duration` reads the duration weights, `Models::stream(i)` reads `parameter[i]`, `Models::gv(i)`
    reads `gv[i]` — and nothing else of the interpolation weights. -/
theorem duration_uses_duration_weights [FloorRing K] [Transc K] [Consts K] [MlpgConsts K] [FromFile K]
    (voices : List Hts.ParsedVoice) (iw iw' : IW K) (labels : List (List Char)) (h : iw.duration = iw'.duration) :
    Synth.modelsDuration voices iw labels = Synth.modelsDuration voices iw' labels :=
  Synth.modelsDuration_congr_iw voices iw iw' labels h

theorem stream_uses_its_parameter_weights [FloorRing K] [Transc K] [Consts K] [MlpgConsts K] [FromFile K]
    (big : K) (voices : List Hts.ParsedVoice) (iw iw' : IW K) (labels : List (List Char)) (nstate i : Nat)
    (h : iw.parameter.getD i [] = iw'.parameter.getD i []) :
    Synth.modelsStream big voices iw labels nstate i = Synth.modelsStream big voices iw' labels nstate i :=
  Synth.modelsStream_congr_iw big voices iw iw' labels nstate i h

theorem gv_uses_its_gv_weights [FloorRing K] [Transc K] [Consts K] [MlpgConsts K] [FromFile K]
    (voices : List Hts.ParsedVoice) (iw iw' : IW K) (labels : List (List Char)) (nstate i : Nat)
    (h : iw.gv.getD i [] = iw'.gv.getD i []) :
    Synth.modelsGv voices iw labels nstate i = Synth.modelsGv voices iw' labels nstate i :=
  Synth.modelsGv_congr_iw voices iw iw' labels nstate i h

/-! non-vacuity: two different voices over ℚ, weights (3/4, 1/4) -/
example : weighted ([3 / 4, 1 / 4] : List ℚ)
    [⟨[⟨4, 8⟩], some 1⟩, ⟨[⟨0, 4⟩], some 0⟩] = .ok ⟨[⟨3, 7⟩], some (3 / 4)⟩ := by
  simp only [weighted, List.zip_cons_cons, List.zip_nil_right, List.foldl_cons, List.foldl_nil,
    ModelParameter.mul, ModelParameter.mulAddAssign, ModelParameter.zipAdd, List.map_cons,
    List.map_nil, Option.map_some]
  norm_num

end Jb.C10
