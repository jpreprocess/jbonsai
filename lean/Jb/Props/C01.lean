/-
  C01 — synthesis is total and frame-exact on every supported input.

  The claim is `synth_total` (pipeline model `Jb/Model/Engine.lean`, over an ordered floor field): on every
  well-formed input `Engine::synthesize` returns exactly `fperiod × F` samples, `F` the sum of the state durations,
  each at least one frame. Its parts are `durations_shape_speed`, `durations_shape_alignment`, `mlpg_shape`,
  `frame_is_fperiod` and `synth_length`; `wf_check_sound` gives the hypothesis the computable form `engineWFb`.
  `synth_total_two_stream` is the two-stream case that panicked before fix 0c7762d, stated stream by stream (the
  stream list may be longer than the two streams read). That the GV switch covers every state cannot be dropped
  from the hypothesis: `Jb.mlpgCreate_shape_counterexample`, `Jb.engineSynthesize_total_counterexample`.
  The same from the voice files (`voices_synth_total` under `Synth.VoicesWF`, which `voices_wf_nonvacuous` shows
  satisfiable and `window_count_mismatch_panics` shows not implied by loading) and from the bytes
  (`bytes_to_waveform_total`, `bytes_to_waveform_total_via_voice_set`, with `supported_example_accepted`).
  The finiteness clause cannot be a theorem over a field (nothing is ever non-finite there); it is
  decided on every run on the implementation and the bit-identical model.
-/
import Jb.Proofs.Total
import Jb.Proofs.SynthTotal
import Jb.Proofs.Supported
import Jb.Proofs.VoiceSetCompat

set_option linter.unusedSectionVars false

namespace Jb.C01

variable {K : Type} [Field K] [LinearOrder K] [IsStrictOrderedRing K] [FloorRing K]
  [Transc K] [Consts K] [MlpgConsts K]

set_option linter.unusedVariables false in
/-- a returned waveform has `fperiod × F` samples (`StreamWF s0` is not needed for this) -/
theorem synth_length (fx : Fix) (c : Condition K) (b : Bool) (inp : EngineIn K) (w : List K)
    (s0 : StreamIn K) (hs0 : inp.streams[0]? = some s0) (hwf : StreamWF s0)
    (h : engineSynthesize fx c b inp = .ok w) :
    ∃ durs, engineDurations c b inp = .ok durs ∧
      (durs.length ≤ s0.stream.length → w.length = c.fperiod * durs.sum) := by
  obtain ⟨p, hp, hchk, rfl⟩ := (engineSynthesize_eq_ok_iff ..).1 h
  obtain ⟨hd, h0, -⟩ := (engineParams_eq_ok_iff ..).1 hp
  refine ⟨_, hd, fun hlen => ?_⟩
  obtain ⟨s, gw, thr, hs, -, -, hm⟩ := engineStream_eq_ok h0
  obtain rfl : s0 = s := Option.some.inj (hs0.symm.trans hs)
  have hl := (mlpgCreate_ok_length _ _ _ _ _ hm).1
  rw [Synth.mlpgStates_mask, maskCreate_length _ _ _ hlen] at hl
  simp only [speechGeneratorNewOk, Bool.and_eq_true, beq_iff_eq] at hchk
  obtain ⟨⟨⟨e1, e2⟩, -⟩, -⟩ := hchk
  exact render_frames_length fx _ _ p _ hl (e1 ▸ hl) (e2 ▸ hl)

/-- Without alignment: one duration per state, each at least one frame. -/
theorem durations_shape_speed (c : Condition K) (b : Bool) (inp : EngineIn K) (h : c.alignment = false) :
    ∃ d, engineDurations c b inp = .ok d ∧ d.length = inp.duration.length ∧ ∀ x ∈ d, 1 ≤ x := by
  obtain ⟨d, hd, hl, hp, -⟩ := durationCreate_spec inp.duration c.speed b
  exact ⟨d, (engineDurations_speed h b inp).trans hd, hl, hp⟩

set_option linter.unusedVariables false in
/-- With alignment: every label keeps all its states (repaired tail handling), each at least one frame
    (`0 < inp.nstate` is not needed for this). -/
theorem durations_shape_alignment (c : Condition K) (b : Bool) (inp : EngineIn K) (h : c.alignment = true)
    (hn : 0 < inp.nstate) (hlen : inp.duration.length = inp.times.length * inp.nstate) :
    ∃ d, engineDurations c b inp = .ok d ∧ d.length = inp.duration.length ∧ ∀ x ∈ d, 1 ≤ x := by
  obtain ⟨d, hd, hl, hp, -⟩ := createWithAlignment_spec inp.duration inp.nstate inp.times hlen
  exact ⟨d, (engineDurations_align h b inp).trans hd, hl, hp⟩

/-- F ≥ labels × states: a list of `n` durations each ≥ 1 sums to at least `n`. -/
theorem frames_ge_states (d : List Nat) (h : ∀ x ∈ d, 1 ≤ x) : d.length ≤ d.sum :=
  List.length_le_sum_of_one_le d h

theorem mlpg_shape (gw thr : K) (s : StreamIn K) (durs : List Nat) (hwf : StreamWF s)
    (hd : durs.length ≤ s.stream.length)
    (hgv : ∀ g sw, s.gv = some (g, sw) → durs.length ≤ sw.length) :
    ∃ rows, mlpgCreate gw thr s durs = .ok rows ∧ rows.length = durs.sum ∧
      ∀ r ∈ rows, r.length = s.vectorLength :=
  mlpgCreate_shape gw thr s durs hwf hd hgv

theorem synth_total_two_stream (fx : Fix) (c : Condition K) (inp : EngineIn K)
    (s0 s1 : StreamIn K) (hs0 : inp.streams[0]? = some s0) (hs1 : inp.streams[1]? = some s1)
    (hw0 : StreamWF s0) (hw1 : StreamWF s1) (hv1 : s1.vectorLength = 1)
    (hl0 : s0.stream.length = inp.duration.length) (hl1 : s1.stream.length = inp.duration.length)
    (hgw : 2 ≤ c.gvWeight.length) (hth : 2 ≤ c.msdThreshold.length) (h2 : inp.nstream = 2)
    (halign : c.alignment = false)
    (hg0 : ∀ g sw, s0.gv = some (g, sw) → inp.duration.length ≤ sw.length)
    (hg1 : ∀ g sw, s1.gv = some (g, sw) → inp.duration.length ≤ sw.length) (b : Bool) :
    ∃ w, engineSynthesize fx c b inp = .ok w := by
  obtain ⟨durs, hdur, hdl, -⟩ := durationCreate_spec inp.duration c.speed b
  obtain ⟨sp, hS0, hspl, -⟩ := engineStream_ok (c := c) hs0 (List.getElem?_eq_getElem (by omega))
    (List.getElem?_eq_getElem (by omega)) hw0 durs (by omega) (hdl ▸ hg0)
  obtain ⟨lf0, hS1, hlfl, hlfr⟩ := engineStream_ok (c := c) hs1 (List.getElem?_eq_getElem (by omega))
    (List.getElem?_eq_getElem (by omega)) hw1 durs (by omega) (hdl ▸ hg1)
  obtain ⟨hp, hchk⟩ := engineParams_ok_of ((engineDurations_speed halign b inp).trans hdur) hS0 hS1
    (by rw [if_neg (by omega)]) hspl hlfl ((emptyRows_spec lf0).1.trans hlfl)
    (fun r hr => (hlfr r hr).trans hv1) (emptyRows_spec lf0).2 (Or.inl rfl)
  exact ⟨_, (engineSynthesize_eq_ok_iff ..).2 ⟨_, hp, hchk, rfl⟩⟩

/-- one vocoder frame is exactly `fperiod` samples, whatever the parameters -/
theorem frame_is_fperiod (fx : Fix) (v : VocoderSt K) (lf0 : K) (sp lpf : List K) :
    (vocoderSynth fx v lf0 sp lpf).1.length = v.fperiod :=
  vocoderSynth_length fx v lf0 sp lpf

/-- **Total and frame-exact, in full generality.** For every well-formed engine input (`EngineWF`: two or three
    streams, every stream with enough Gaussians per state and a GV switch covering every state, log-F0 of
    length 1, low-pass of odd length, one threshold and GV weight per stream; with alignment, `nstate > 0`
    and one time pair per label) synthesis returns — no panic site is reachable — every state lasts at least
    one frame, and the waveform has exactly `frame_period × F` samples. -/
theorem synth_total (fx : Fix) (c : Condition K) (inp : EngineIn K) (h : EngineWF c inp) (b : Bool) :
    ∃ durs w, engineDurations c b inp = .ok durs ∧ durs.length = inp.duration.length ∧ (∀ x ∈ durs, 1 ≤ x) ∧
      engineSynthesize fx c b inp = .ok w ∧ w.length = c.fperiod * durs.sum :=
  engineSynthesize_total fx c inp h b

/-- … hence `F ≥ labels × states`, and no label or state contributes nothing. -/
theorem synth_total_frames (fx : Fix) (c : Condition K) (inp : EngineIn K) (h : EngineWF c inp) (b : Bool) :
    ∃ durs w, engineDurations c b inp = .ok durs ∧ engineSynthesize fx c b inp = .ok w ∧
      c.fperiod * inp.duration.length ≤ w.length := by
  obtain ⟨durs, w, h1, h2, h3, h4, h5⟩ := engineSynthesize_total fx c inp h b
  refine ⟨durs, w, h1, h4, ?_⟩
  rw [h5, ← h2]
  exact Nat.mul_le_mul_left _ (frames_ge_states durs h3)

/-- the hypothesis `EngineWF` of `synth_total` has a computable form (`engineWFb`, `Jb/Model/EngineWFb.lean`): when the check
    passes, synthesis is total and frame-exact. The driver evaluates the check on the stage inputs of every pipeline case
    (class tag `wf` / `NOT-WF` in the evidence), so that the cases the correspondence runs are measured to lie inside the
    theorem's hypothesis class. -/
theorem wf_check_sound (fx : Fix) (c : Condition K) (inp : EngineIn K) (h : engineWFb c inp = true) (b : Bool) :
    ∃ durs w, engineDurations c b inp = .ok durs ∧ durs.length = inp.duration.length ∧ (∀ x ∈ durs, 1 ≤ x) ∧
      engineSynthesize fx c b inp = .ok w ∧ w.length = c.fperiod * durs.sum :=
  engineSynthesize_total fx c inp (engineWFb_sound c inp h) b

/-! ### from the voice files: totality of the whole library (`Jb/Model/Synth.lean`)

  The hypothesis of the theorems above (`EngineWF`) speaks about what `Models` hands to the stages. The
  theorems below put tree selection, voice interpolation, the header defaults and the setter history inside:
  the hypothesis `Synth.VoicesWF` is about the *parsed voices and the weight vectors* only (2 or 3 streams,
  log-F0 of length 1, odd low-pass length, ≥ 1 window, every tree walk ends in a PDF of the expected shape,
  one weight per voice). "Setter history" is the model's: a call the real setter would reject with a panic
  (`set_msd_threshold` / `set_gv_weight` with a stream index out of range, engine.rs:160) is skipped by `applyHistory`,
  so the theorems say nothing about a program that makes such a call. -/

/-- for every well-formed voice set, weights, setter history (in the model: out-of-range calls are skipped, see above),
    label sequence and (with alignment) one time pair per label: `Engine::synthesize` returns `frame_period × F` samples,
    one duration ≥ 1 per state -/
theorem voices_synth_total [FromFile K] (fx : Fix) (big : K) (voices : List Hts.ParsedVoice) (iw : IW K)
    (h : Synth.VoicesWF voices iw) (v0 : Hts.ParsedVoice) (hv0 : voices.head? = some v0) (ops : List (CondOp K))
    (f : Condition K → Bool) (labels : List (List Char)) (times : List (K × K))
    (halign : (Synth.condOf (K := K) v0 ops).alignment = true → times.length = labels.length) :
    ∃ (durs : List Nat) (w : List K), Synth.synthesize fx big voices iw ops f labels times = .ok w ∧
      w.length = (Synth.condOf (K := K) v0 ops).fperiod * durs.sum ∧
      durs.length = labels.length * v0.global.nstates ∧ (∀ d ∈ durs, 1 ≤ d) :=
  Synth.synthesize_total fx big voices iw h v0 hv0 ops f labels times halign

/-- … so `F ≥ labels × states-per-phoneme` -/
theorem voices_synth_frames [FromFile K] (fx : Fix) (big : K) (voices : List Hts.ParsedVoice) (iw : IW K)
    (h : Synth.VoicesWF voices iw) (v0 : Hts.ParsedVoice) (hv0 : voices.head? = some v0) (ops : List (CondOp K))
    (f : Condition K → Bool) (labels : List (List Char)) (times : List (K × K))
    (halign : (Synth.condOf (K := K) v0 ops).alignment = true → times.length = labels.length) :
    ∃ (durs : List Nat) (w : List K), Synth.synthesize fx big voices iw ops f labels times = .ok w ∧
      w.length = (Synth.condOf (K := K) v0 ops).fperiod * durs.sum ∧
      labels.length * v0.global.nstates ≤ durs.sum ∧
      (Synth.condOf (K := K) v0 ops).fperiod * (labels.length * v0.global.nstates) ≤ w.length :=
  Synth.synthesize_frames_ge fx big voices iw h v0 hv0 ops f labels times halign

/-- an empty label list yields an empty waveform -/
theorem voices_synth_empty [FromFile K] (fx : Fix) (big : K) (voices : List Hts.ParsedVoice) (iw : IW K)
    (h : Synth.VoicesWF voices iw) (ops : List (CondOp K)) (f : Condition K → Bool) :
    Synth.synthesize fx big voices iw ops f [] [] = .ok [] :=
  Synth.synthesize_empty fx big voices iw h ops f

/-- the hypotheses are satisfiable: a concrete one-state, two-stream voice (MSD log-F0 with GV) -/
theorem voices_wf_nonvacuous [FromFile K] : Synth.VoicesWF (K := K) [Synth.Tiny.voice] Synth.Tiny.weights :=
  Synth.Tiny.voicesWF

/-- the shape clause is needed and the loader does not establish it: a voice whose stream lists more
    windows (`STREAM_WIN`) than its PDFs were cut for (`NUM_WINDOWS`) loads, and synthesis of any label
    reaches the index panic of `MlpgAdjust::create` (machine-checked on the model; replayed on the code in
    DESIGN.md §9.8). Such a file is outside "supported voice configuration". -/
theorem window_count_mismatch_panics [FromFile K] (fx : Fix) (big : K) (f : Condition K → Bool) (l : List Char) :
    Synth.synthesize fx big [Synth.Tiny.badVoice] (Synth.Tiny.weights (K := K)) [] f [l] []
      = .panic "mlpg_adjust/mod.rs:curr_stream[m]" :=
  Synth.Tiny.badVoice_panics fx big f l

/-! ### from the bytes: the whole library, one theorem

  `parseVoice` is the reader (C18: total, never panics), `supportedVoice` / `compatibleVoice` are *computable* checks
  (`Jb/Model/Supported.lean`; the driver runs them on the voice files of every end-to-end case and records the answer in
  the evidence classes), and the conclusion is C01 for every label sequence, setter history and weight assignment. -/

/-- **C01 from the voice files.** If every voice of the set was accepted by the reader, passes the computable
    `supportedVoice` check (2 or 3 streams, log-F0 of length 1, odd low-pass length, 1 ≤ windows listed ≤ windows
    announced, for every state a tree whose rows are non-empty, have distinct ids, refer forward only and name PDF ids that
    exist) and is compatible with the first, and there is one interpolation weight per voice, then synthesis of *any* labels
    under *any* setter history (in the model: a call with an out-of-range stream index, on which the real setter panics, is
    skipped by `applyHistory`) returns exactly `frame_period × F` samples with every state ≥ 1 frame, `F ≥ labels × states`. -/
theorem bytes_to_waveform_total [FromFile K] (fx : Fix) (big : K) (voices : List Hts.ParsedVoice) (v0 : Hts.ParsedVoice)
    (hv0 : voices.head? = some v0) (iw : IW K)
    (hall : ∀ v ∈ voices, (∃ bytes, Hts.parseVoice true bytes = .ok v) ∧ Hts.supportedVoice v = true ∧
      Hts.compatibleVoice v0 v = true)
    (hw : Synth.WeightsWF voices.length v0.global.nstreams iw) (ops : List (CondOp K)) (f : Condition K → Bool)
    (labels : List (List Char)) (times : List (K × K))
    (halign : (Synth.condOf (K := K) v0 ops).alignment = true → times.length = labels.length) :
    ∃ (durs : List Nat) (w : List K), Synth.synthesize fx big voices iw ops f labels times = .ok w ∧
      w.length = (Synth.condOf (K := K) v0 ops).fperiod * durs.sum ∧
      labels.length * v0.global.nstates ≤ durs.sum ∧ (∀ d ∈ durs, 1 ≤ d) :=
  Synth.bytes_synth_total fx big voices v0 hv0 iw hall hw ops f labels times halign

/-- non-vacuity: a complete byte image the reader accepts (kernel evaluation) and that passes `supportedVoice` -/
theorem supported_example_accepted :
    Hts.parseVoice true Hts.SupportedEx.okBytes = .ok Hts.SupportedEx.okVoice ∧
      Hts.supportedVoice Hts.SupportedEx.okVoice = true :=
  ⟨Hts.SupportedEx.ok_accepted, Hts.SupportedEx.ok_supported⟩

/-- **C01 from the voice files, with the library's own compatibility check.** As `bytes_to_waveform_total`, the
    `compatibleVoice` hypothesis replaced by "the model of `VoiceSet::new` (C19: `voiceSetNew` on the voices' metadata)
    accepted the list": accepted by the reader ∧ supported ∧ combined by `VoiceSet::new` ⇒ total and frame-exact. -/
theorem bytes_to_waveform_total_via_voice_set [FromFile K] (fx : Fix) (big : K) (voices : List Hts.ParsedVoice)
    (v0 : Hts.ParsedVoice) (hv0 : voices.head? = some v0) (iw : IW K)
    (hall : ∀ v ∈ voices, (∃ bytes, Hts.parseVoice true bytes = .ok v) ∧ Hts.supportedVoice v = true)
    (hvs : voiceSetNew (voices.map Hts.metaOf) = Except.ok ())
    (hw : Synth.WeightsWF voices.length v0.global.nstreams iw) (ops : List (CondOp K)) (f : Condition K → Bool)
    (labels : List (List Char)) (times : List (K × K))
    (halign : (Synth.condOf (K := K) v0 ops).alignment = true → times.length = labels.length) :
    ∃ (durs : List Nat) (w : List K), Synth.synthesize fx big voices iw ops f labels times = .ok w ∧
      w.length = (Synth.condOf (K := K) v0 ops).fperiod * durs.sum ∧
      labels.length * v0.global.nstates ≤ durs.sum ∧ (∀ d ∈ durs, 1 ≤ d) :=
  Synth.bytes_synth_total fx big voices v0 hv0 iw
    (fun v hv => ⟨(hall v hv).1, (hall v hv).2, Hts.voiceSetNew_compatible voices v0 hv0 hvs v hv⟩)
    hw ops f labels times halign

end Jb.C01
