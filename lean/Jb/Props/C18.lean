/-
  C18 — a malformed voice file is an error, not a crash.

  The reader model mirrors every guard of the loader: each slice taken from a header range, each node /
  question reference, each data-derived product and the digit accumulation is a site that returns
  `err` in the repaired loader (`guarded = true`) and `panic` in the pinned commit (`guarded = false`).
  Theorems: for **every** byte sequence the guarded reader returns a voice or an error — there is no
  panic outcome (and the reader is a total function: structural / fuelled recursion accepted by Lean).  Of the pinned
  commit's sites, witnessed as panics of the unguarded model: two slices and two `convert_tree` sites here (`pinned_*`),
  the digit accumulation in `Hts.pinned_overflow_panics` (`Jb/Proofs/Hts.lean`, with the same inputs as errors of the
  guarded model: `Hts.guarded_same_inputs_are_errors`); none for a product (`checkedMul false`).
  Size bounds (`Jb/Proofs/HtsRead.lean`): whatever the header claims, a voice the guarded reader accepts has no more
  streams, questions, trees, tree rows, PDF words, windows or window coefficients than the file has bytes (the pinned
  commit lacked this for `NUM_STREAMS`: F9).  The NUMBER of PDFs is not bounded: with PDF length 0 the model reads a count
  word as that many empty PDFs (1000 PDFs from a 752-byte file).
  Hang and unbounded allocation of the *real binary* are runtime observations (address-space and
  wall-clock limits around the fault enumeration) — **partial** in that sense.
-/
import Jb.Proofs.ParseShape

namespace Jb.C18
open Hts

/-- **No panic, for all inputs.** -/
theorem parse_no_panic (bytes : List Nat) : ∀ s, parseVoice true bytes ≠ .panic s :=
  (Outcome.sat_iff.1 (sat_parseVoice bytes)).1

/-- hence: a voice or an error -/
theorem voice_or_error (bytes : List Nat) :
    (∃ v, parseVoice true bytes = .ok v) ∨ (∃ e, parseVoice true bytes = .err e) := by
  cases h : parseVoice true bytes with
  | ok v => exact Or.inl ⟨v, rfl⟩
  | err e => exact Or.inr ⟨e, rfl⟩
  | panic s => exact absurd h (parse_no_panic bytes s)

/-- the pinned commit's panic sites, as statements about the unguarded model -/
theorem pinned_inverted_range : ∃ s, sliceIncl false "parser/mod.rs" [1, 2, 3] (5, 2) = .panic s := ⟨_, rfl⟩
theorem pinned_truncated_file : ∃ s, sliceIncl false "parser/mod.rs" [1, 2, 3] (1, 7) = .panic s := ⟨_, rfl⟩
theorem pinned_unknown_question :
    ∃ s, convertTree false [] ⟨2, [⟨0, "Q", .pdf 1, .pdf 2⟩]⟩ = .panic s := ⟨_, rfl⟩
theorem pinned_lone_node_child :
    ∃ s, convertTree false [] ⟨2, [⟨0, "", .node (-3), .node (-3)⟩]⟩ = .panic s := ⟨_, rfl⟩

/-! ### what is loaded is bounded by what was read -/

/-- the declared number of streams is the number of stream models, and it is at most the file size -/
theorem streams_bounded_by_file (bytes : List Nat) (v : ParsedVoice) (h : parseVoice true bytes = .ok v) :
    v.global.nstreams = v.streams.length ∧ v.streams.length ≤ bytes.length := by
  have hv := parseVoice_spec h
  have hl : v.streams.length = v.global.streamType.length := by rw [← hv.names, List.length_map]
  exact ⟨hv.nstreams.trans hl.symm, hl ▸ hv.streamType_le⟩

/-- every model of a loaded voice (duration, each stream, each GV model): questions, trees, tree rows and four times the
    number of 32-bit PDF words are each at most the file size -/
theorem models_bounded_by_file (bytes : List Nat) (v : ParsedVoice) (h : parseVoice true bytes = .ok v)
    (m : FileModel) (hm : m = v.duration ∨ (∃ s ∈ v.streams, m = s.model ∨ s.gv = some m)) :
    m.questions.length ≤ bytes.length ∧ m.trees.length ≤ bytes.length ∧ m.rowCount ≤ bytes.length ∧
    4 * m.words ≤ bytes.length := by
  have hv := parseVoice_spec h
  rcases hm with rfl | ⟨s, hs, rfl | hm⟩
  · exact hv.duration.sizes_le
  · exact (hv.streams s hs).model.sizes_le
  · exact ((hv.streams s hs).gv m hm).sizes_le

/-- windows of every stream: their number and the length of each -/
theorem windows_bounded_by_file (bytes : List Nat) (v : ParsedVoice) (h : parseVoice true bytes = .ok v)
    (s : ParsedStream) (hs : s ∈ v.streams) :
    s.windows.length ≤ bytes.length ∧ ∀ w ∈ s.windows, w.length ≤ bytes.length :=
  ⟨((parseVoice_spec h).streams s hs).windows_length, ((parseVoice_spec h).streams s hs).windows⟩

/-- **what acceptance guarantees** (`Jb/Proofs/ParseShape.lean`): a voice the guarded reader returns has one parsed stream
    per announced stream (at least one); every PDF of the duration model has `NUM_STATES` means and variances; every PDF
    of a stream model has `VECTOR_LENGTH × NUM_WINDOWS` means and variances and a voicing weight iff the stream is MSD;
    a stream has a GV model iff `USE_GV`, with `VECTOR_LENGTH` entries per PDF; every model has one PDF list per tree and
    every reference / question name of every tree resolves — so none of the `unwrap`s of `convert_tree` and none of the
    `from_linear` index computations can fail on an accepted file. -/
theorem accepted_voice_shape (bytes : List Nat) (v : ParsedVoice) (h : parseVoice true bytes = .ok v) :
    (v.streams.length = v.global.nstreams ∧ 0 < v.streams.length) ∧
    ((∀ ps ∈ v.duration.pdfs, ∀ p ∈ ps,
        p.means.length = v.global.nstates ∧ p.varis.length = v.global.nstates ∧ p.msd = none) ∧
      v.duration.pdfs.length = v.duration.trees.length ∧
      ∀ t ∈ v.duration.trees, ∃ r, convertTree true v.duration.questions t = .ok r) ∧
    (∀ s ∈ v.streams,
      (∀ ps ∈ s.model.pdfs, ∀ p ∈ ps,
        p.means.length = s.info.veclen * s.info.nwin ∧ p.varis.length = s.info.veclen * s.info.nwin ∧
        p.msd.isSome = s.info.isMsd) ∧
      s.model.pdfs.length = s.model.trees.length ∧
      ∀ t ∈ s.model.trees, ∃ r, convertTree true s.model.questions t = .ok r) ∧
    (∀ s ∈ v.streams,
      (s.info.useGv = true → ∃ g, s.gv = some g ∧
        (∀ ps ∈ g.pdfs, ∀ p ∈ ps,
          p.means.length = s.info.veclen ∧ p.varis.length = s.info.veclen ∧ p.msd = none) ∧
        g.pdfs.length = g.trees.length ∧
        ∀ t ∈ g.trees, ∃ r, convertTree true g.questions t = .ok r) ∧
      (s.info.useGv = false → s.gv = none)) :=
  parseVoice_shape bytes v h

/-- the hypothesis is satisfiable — and acceptance is *not* well-formedness: this complete file image, which the reader
    accepts (kernel evaluation), announces three windows and lists one (`ParseShapeEx.ex_windows`), has a leaf whose PDF
    id exceeds the PDF count (`ex_leaf_out_of_range`), a cyclic tree (`ex_cyclic`), a tree without rows and a tree for a
    state the voice does not have (`ex_empty_tree_and_states`). None of this is a crash of the loader (C18 holds); it is
    why C01 quantifies over *supported* voices (`Synth.VoicesWF`). -/
theorem accepted_is_not_wellformed :
    parseVoice true ParseShapeEx.exBytes = .ok ParseShapeEx.exVoice := ParseShapeEx.ex_accepted

end Jb.C18
