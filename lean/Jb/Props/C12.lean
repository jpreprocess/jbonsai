/-
  C12 — global variance restores the model's variance.  **Partial.**

  Theorems: the first GV step exactly (`conv_gv` restores the target variance `gv_mean × gv_weight` on the eligible
  frames, keeps their mean and the ineligible frames) and the plumbing around the iteration: with no eligible frame
  the GV stage returns the plain ML solution; a stream without GV ignores the GV weight; eligibility of a frame is
  the GV switch of its state (a label outside the voice's GV-off contexts), expanded by the durations and restricted
  to voiced frames.
  Not proved (empirical claims about a fixed, truncated Newton-like iteration): "within 20 % when ≥ 100
  frames are eligible" and "monotone in the weight" — decided on every run on the implementation
  (bundled voice and perturbed copies), with the GV iteration's model tied bit-for-bit at stage level.
-/
import Jb.Proofs.SynthBridge

set_option linter.unusedSectionVars false

namespace Jb.C12

variable {K : Type} [Field K] [LinearOrder K] [IsStrictOrderedRing K] [FloorRing K]
  [Transc K] [Consts K] [MlpgConsts K]

/-- The `some` arm of the model's `MlpgMatrix.par`, by definition: the variance target handed to the GV stage is
    `gv_mean · gv_weight`, the switch is expanded by the durations and restricted to voiced frames. The model reads
    `gv_param[vector_index]` with a default, where the code panics on a list that is too short. -/
theorem target_is_weighted (m : MlpgMatrix K) (gvParam : List (MeanVari K)) (gvSwitch : List Bool)
    (vi : Nat) (w : K) (durs : List Nat) (mask : List Bool) :
    m.par (some (gvParam, gvSwitch)) vi w durs mask =
      gvParmgen m m.solve (filterBy (expand gvSwitch durs) mask)
        ((gvParam.getD vi ⟨0, 0⟩).mean * w) (gvParam.getD vi ⟨0, 0⟩).vari :=
  MlpgMatrix.par_some m gvParam gvSwitch vi w durs mask

/-- If no frame is eligible the trajectory is the plain maximum-likelihood solution. -/
theorem no_eligible_is_ml (m : MlpgMatrix K) (par : List K) (sw : List Bool) (gm gv : K)
    (h : (sw.filter id).length = 0) : gvParmgen m par sw gm gv = par :=
  gvParmgen_no_eligible m par sw gm gv h

theorem no_eligible_par (m : MlpgMatrix K) (gvParam : List (MeanVari K)) (gvSwitch : List Bool)
    (vi : Nat) (w : K) (durs : List Nat) (mask : List Bool)
    (h : ((filterBy (expand gvSwitch durs) mask).filter id).length = 0) :
    m.par (some (gvParam, gvSwitch)) vi w durs mask = m.par none vi w durs mask := by
  rw [MlpgMatrix.par_some, gvParmgen_no_eligible _ _ _ _ _ h, MlpgMatrix.par_none]

/-- A stream without GV is unaffected by the GV weight. -/
theorem no_gv_ignores_weight (gw gw' thr : K) (s : StreamIn K) (durs : List Nat) (h : s.gv = none) :
    mlpgCreate gw thr s durs = mlpgCreate gw' thr s durs :=
  mlpgCreate_no_gv gw gw' thr s durs h

/-- **`conv_gv` restores exactly the target variance.** With at least one eligible frame, positive
    current variance and a square root that squares back, after the first GV step the variance over the
    eligible frames is exactly `gv_mean · gv_weight` and their mean is unchanged; that ineligible frames are
    untouched is `conv_gv_keeps_ineligible`. (The five Newton-like steps that follow trade this off against the
    HMM likelihood; that the result stays within 20 % is the tested clause.) -/
theorem conv_gv_hits_target (par : List K) (sw : List Bool) (gm : K)
    (hlen : par.length = sw.length) (hpos : 0 < (sw.filter id).length)
    (hsqrt : ∀ x : K, 0 ≤ x → Transc.sqrt x * Transc.sqrt x = x)
    (hv : 0 < (calcGv par sw (sw.filter id).length).2)
    (hr : 0 ≤ gm / (calcGv par sw (sw.filter id).length).2) :
    calcGv (convGv par sw (sw.filter id).length gm) sw (sw.filter id).length =
      ((calcGv par sw (sw.filter id).length).1, gm) :=
  convGv_variance par sw gm hlen hpos hsqrt hv hr

theorem conv_gv_keeps_ineligible (par : List K) (sw : List Bool) (gvLen : Nat) (gm : K) (i : Nat)
    (hlen : par.length = sw.length) (hi : sw[i]? = some false) :
    (convGv par sw gvLen gm)[i]? = par[i]? := by
  by_cases hpos : 0 < (calcGv par sw gvLen).2
  · obtain ⟨hisw, hswi⟩ := List.getElem?_eq_some_iff.mp hi
    have hip : i < par.length := hlen ▸ hisw
    rw [convGv_eq _ _ _ _ hpos, List.getElem?_map,
      List.getElem?_eq_getElem (by rw [List.length_zip]; omega), List.getElem_zip, hswi,
      List.getElem?_eq_getElem hip, Option.map_some, convGvFrame_false]
  · rw [convGv_of_not_pos _ _ _ _ hpos]

/-- **GV-off contexts → per-state switch.** Whenever `Models::gv` yields a switch, state `k` of label `j` is
    GV-eligible exactly when label `j` matches none of the voice's GV-off patterns — wherever in the
    utterance the label stands. -/
theorem switch_is_outside_gv_off [FromFile K] (voices : List Hts.ParsedVoice) (v0 : Hts.ParsedVoice) (rest : List Hts.ParsedVoice)
    (hv : voices = v0 :: rest) (iw : IW K) (labels : List (List Char)) (nstate i : Nat)
    (gvp : List (MeanVari K)) (sw : List Bool)
    (h : Synth.modelsGv voices iw labels nstate i = .ok (some (gvp, sw))) :
    sw = (labels.map fun l => List.replicate nstate (!(Hts.questionTest v0.global.gvOff l))).flatten := by
  subst hv
  obtain ⟨_, -, -, hsw⟩ := Synth.modelsGv_spec (v0 := v0) rfl h
  exact hsw gvp sw rfl

/-- **C12 from the voice files: a stream without GV is unaffected by its GV weight.** If the first voice's stream `j` has
    `USE_GV = 0` (or there are no labels), appending `set_gv_weight(j, x)` to any history changes neither the trajectories nor
    the waveform. -/
theorem library_no_gv_ignores_weight {K : Type} [Field K] [LinearOrder K] [IsStrictOrderedRing K] [FloorRing K]
    [Transc K] [Consts K] [MlpgConsts K] [FromFile K] (fx : Fix) (big : K)
    (voices : List Hts.ParsedVoice) (iw : IW K) (ops : List (CondOp K)) (f : Condition K → Bool) (hf : Synth.SpeedOnly f)
    (labels : List (List Char)) (times : List (K × K)) (j : Nat) (x : K)
    (hno : labels = [] ∨ ∀ v0 s0, voices.head? = some v0 → v0.streams[j]? = some s0 → s0.info.useGv = false) :
    Synth.params big voices iw (ops ++ [.gv j x]) f labels times = Synth.params big voices iw ops f labels times ∧
    Synth.synthesize fx big voices iw (ops ++ [.gv j x]) f labels times = Synth.synthesize fx big voices iw ops f labels times := by
  -- on the stage inputs, stream `j` has no GV, so the engine does not read `gvWeight[j]`
  have key : ∀ v0 inp, voices.head? = some v0 → Synth.engineIn big voices iw labels times = .ok inp →
      engineParams (Synth.condOf v0 (ops ++ [.gv j x])) (f (Synth.condOf v0 (ops ++ [.gv j x]))) inp =
        engineParams (Synth.condOf v0 ops) (f (Synth.condOf v0 ops)) inp ∧
      engineSynthesize fx (Synth.condOf v0 (ops ++ [.gv j x])) (f (Synth.condOf v0 (ops ++ [.gv j x]))) inp =
        engineSynthesize fx (Synth.condOf v0 ops) (f (Synth.condOf v0 ops)) inp := by
    intro v0 inp hv0 hin
    have hb : f (Synth.condOf v0 (ops ++ [CondOp.gv j x])) = f (Synth.condOf v0 ops) :=
      hf _ _ (by rw [Synth.condOf_snoc, stepC_gv])
    rw [hb, Synth.condOf_snoc, stepC_gv]
    exact ⟨engineParams_set_gv_no_gv _ _ inp j _ (Synth.engineIn_no_gv hv0 hin hno),
      engineSynthesize_set_gv_no_gv fx _ _ inp j _ (Synth.engineIn_no_gv hv0 hin hno)⟩
  rw [Synth.params_eq, Synth.params_eq, Synth.synthesize_eq, Synth.synthesize_eq]
  exact ⟨Synth.withInputs_congr fun v0 inp hv0 hin => (key v0 inp hv0 hin).1,
    Synth.withInputs_congr fun v0 inp hv0 hin => (key v0 inp hv0 hin).2⟩

/-- the GV switch the stages receive for stream `j` is "label outside the voice's GV-off contexts", once per state -/
theorem library_gv_switch {K : Type} [Field K] [LinearOrder K] [IsStrictOrderedRing K] [FloorRing K]
    [Transc K] [Consts K] [MlpgConsts K] [FromFile K] (big : K) (v0 : Hts.ParsedVoice) (vs : List Hts.ParsedVoice) (iw : IW K)
    (labels : List (List Char)) (times : List (K × K)) (inp : EngineIn K)
    (hin : Synth.engineIn big (v0 :: vs) iw labels times = .ok inp)
    (j : Nat) (s : StreamIn K) (hs : inp.streams[j]? = some s) (g : List (MeanVari K)) (sw : List Bool)
    (hg : s.gv = some (g, sw)) :
    sw = (labels.map fun l => List.replicate v0.global.nstates (!(Hts.questionTest v0.global.gvOff l))).flatten :=
  (Synth.engineIn_gv_switch (v0 := v0) rfl hin j s hs).elim fun _ h => h.2.2 g sw hg

end Jb.C12
