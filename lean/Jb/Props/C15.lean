/-
  C15 — additional half tone transposes F0 and nothing else.
-/
import Jb.Proofs.SynthBridge

set_option linter.unusedSectionVars false

namespace Jb.C15

variable {K : Type} [Field K] [LinearOrder K] [IsStrictOrderedRing K] [FloorRing K]
  [Transc K] [Consts K] [MlpgConsts K]

/-- `h = 0` is the identity. -/
theorem halftone_zero (stream : List (StateParam K)) : applyHalfTone stream 0 = stream :=
  applyHalfTone_zero stream

/-- The static log-F0 mean of every state that has a Gaussian becomes `clamp(m + h·ln2/12)` (20 Hz..20 kHz); variances,
    dynamic means and voicing weights are untouched. A state without Gaussians is left alone by the model; the code
    panics there (`p[0]`). -/
theorem halftone_static (stream : List (StateParam K)) (h : K) (hh : h ≠ 0) :
    applyHalfTone stream h = stream.map fun s =>
      match s.params with
      | [] => s
      | p :: rest => { s with params := ⟨clampS (p.mean + h * Consts.halfTone) Consts.minLf0 Consts.maxLf0, p.vari⟩ :: rest } :=
  applyHalfTone_spec stream h hh

/-- The voiced/unvoiced pattern does not change (in the model also for a stream with a state without Gaussians, where
    the code panics). -/
theorem halftone_mask (stream : List (StateParam K)) (h thr : K) (durs : List Nat) :
    maskCreate (applyHalfTone stream h) thr durs = maskCreate stream thr durs :=
  applyHalfTone_mask stream h thr durs

/-- Durations do not change. -/
theorem halftone_durations (c : Condition K) (h : K) (b : Bool) (inp : EngineIn K) :
    engineDurations (c.setHalfTone h) b inp = engineDurations c b inp :=
  engineDurations_congr _ _ b inp rfl rfl

/-- The spectral and low-pass trajectories do not change (every stream other than log-F0). -/
theorem halftone_isolation (c : Condition K) (h : K) (inp : EngineIn K) (durs : List Nat) (i : Nat) (hi : i ≠ 1) :
    engineStream (c.setHalfTone h) inp durs i = engineStream c inp durs i :=
  engineStream_congr _ _ inp durs i rfl rfl (fun h1 => absurd h1 hi)

/-- a shift `δ` that keeps the value inside the limits is a plain addition -/
theorem unclamped_shift (m δ : K) (h1 : (Consts.minLf0 : K) ≤ m + δ) (h2 : m + δ ≤ (Consts.maxLf0 : K)) :
    clampS (m + δ) (Consts.minLf0 : K) Consts.maxLf0 = m + δ :=
  clampS_of_mem h1 h2

/-- **The generated trajectory moves by exactly the shift.** Adding `h` to every static mean adds `h` to every
    frame of the maximum-likelihood trajectory, for windows whose dynamic coefficients sum to zero (delta
    windows) — because the band matrix ignores the means, the constant sequence solves the difference of the
    normal equations, and the solution is unique. -/
theorem trajectory_shift (windows : List (List K)) (obs : List (List (MeanVari K))) (T : Nat)
    (hstatic : windows.head? = some [1]) (hlen : windows.length = obs.length)
    (hobs : ∀ o ∈ obs, o.length = T) (hedge : EdgeZero windows obs T)
    (hnonneg : ∀ o ∈ obs, ∀ mv ∈ o, 0 ≤ mv.vari) (hpos : ∀ mv ∈ obs.headD [], 0 < mv.vari)
    (hsum : ∀ w ∈ windows.tail, w.sum = 0)
    (h : K) (m m' : MlpgMatrix K)
    (hm : calcWuwWum windows obs = some m) (hm' : calcWuwWum windows (shiftStatic obs h) = some m') :
    m'.solve = m.solve.map (· + h) :=
  mlpg_shift windows obs T hstatic hlen hobs hedge hnonneg hpos hsum h m m' hm hm'

/-- **… and through the global-variance iteration as well.** `MlpgMatrix::par` — the ML solution followed by
    `conv_gv` and the five Newton-like steps with their adaptive step size — commutes with the shift: the
    variance statistics ignore it, `A·par − W'Pμ` ignores it, and the objective changes by a constant that
    does not depend on the iterate, so the step-size decisions are the same. -/
theorem trajectory_shift_with_gv (windows : List (List K)) (obs : List (List (MeanVari K))) (T : Nat)
    (hstatic : windows.head? = some [1]) (hlen : windows.length = obs.length)
    (hobs : ∀ o ∈ obs, o.length = T) (hedge : EdgeZero windows obs T)
    (hnonneg : ∀ o ∈ obs, ∀ mv ∈ o, 0 ≤ mv.vari) (hpos : ∀ mv ∈ obs.headD [], 0 < mv.vari)
    (hsum : ∀ w ∈ windows.tail, w.sum = 0)
    (h : K) (m m' : MlpgMatrix K)
    (hm : calcWuwWum windows obs = some m) (hm' : calcWuwWum windows (shiftStatic obs h) = some m')
    (gv : Option (List (MeanVari K) × List Bool)) (vi : Nat) (gw : K) (durs : List Nat) (mask : List Bool)
    (hmask : (mask.filter id).length = T)
    (hsw : ∀ g sw, gv = some (g, sw) → (filterBy (expand sw durs) mask).length = T) :
    m'.par gv vi gw durs mask = (m.par gv vi gw durs mask).map (· + h) :=
  par_shift windows obs T hstatic hlen hobs hedge hnonneg hpos hsum h m m' hm hm' gv vi gw durs mask hmask hsw

/-- **C15, end to end at model level.** On the log-F0 stream the model of `MlpgAdjust::create` after
    `apply_additional_half_tone(h)` returns, on every voiced frame, the trajectory without the shift plus
    `h·ln2/12` — through the maximum-likelihood solution and the GV iteration — as long as no state mean
    reaches the 20 Hz..20 kHz clamp; unvoiced frames keep the no-data marker; the number of frames is the same.
    `Unclamped` asks this of EVERY state of the stream, those of unvoiced frames included. -/
theorem halftone_moves_the_trajectory (gw thr : K) (s : StreamIn K) (durs : List Nat) (h : K) (hh : h ≠ 0)
    (hv : s.vectorLength = 1) (hwf : StreamWF s) (hstatic : s.windows.head? = some [1])
    (hsum : ∀ w ∈ s.windows.tail, w.sum = 0)
    (hd : durs.length ≤ s.stream.length)
    (hgv : ∀ g sw, s.gv = some (g, sw) → durs.length ≤ sw.length)
    (hnonneg : ∀ st ∈ s.stream, ∀ p ∈ st.params, 0 ≤ (withIvar p).vari)
    (hdflt : 0 ≤ (withIvar (⟨0, 0⟩ : MeanVari K)).vari)
    (hpos : ∀ st ∈ s.stream, 0 < (withIvar (st.params.getD 0 ⟨0, 0⟩)).vari)
    (hu : Unclamped s.stream h) :
    ∃ traj traj',
      mlpgCreate gw thr s durs = .ok traj ∧
      mlpgCreate gw thr { s with stream := applyHalfTone s.stream h } durs = .ok traj' ∧
      traj'.length = traj.length ∧
      ∀ f, f < traj.length →
        traj'.getD f [] =
          if (maskCreate s.stream thr durs).getD f false then (traj.getD f []).map (· + h * Consts.halfTone)
          else traj.getD f [] :=
  mlpgCreate_halfTone gw thr s durs h hh hv hwf hstatic hsum hd hgv hnonneg hdflt hpos hu

/-- **"Additional half tone transposes F0 and nothing else"** for everything the model of `Engine::generator` hands to
    the vocoder: same durations, same spectrum and low-pass trajectories, same number of log-F0 frames, and log-F0 plus
    `h·ln2/12` on every voiced frame (no-data marker kept on unvoiced ones), while no state mean is clamped — `Unclamped`
    asks this of EVERY state of the log-F0 stream, those of unvoiced frames included. -/
theorem pipeline_transposes_only_f0 (c : Condition K) (h : K) (hh : h ≠ 0) (h0 : c.halfTone = 0) (b : Bool)
    (inp : EngineIn K) (hwf : EngineWF c inp)
    (s1 : StreamIn K) (hs1 : inp.streams[1]? = some s1) (thr : K) (hthr : c.msdThreshold[1]? = some thr)
    (hstatic : s1.windows.head? = some [1]) (hsum : ∀ w ∈ s1.windows.tail, w.sum = 0)
    (hnonneg : ∀ st ∈ s1.stream, ∀ p ∈ st.params, 0 ≤ (withIvar p).vari)
    (hdflt : 0 ≤ (withIvar (⟨0, 0⟩ : MeanVari K)).vari)
    (hpos : ∀ st ∈ s1.stream, 0 < (withIvar (st.params.getD 0 ⟨0, 0⟩)).vari)
    (hu : Unclamped s1.stream h) :
    ∃ p p', engineParams c b inp = .ok p ∧ engineParams { c with halfTone := h } b inp = .ok p' ∧
      p'.durations = p.durations ∧ p'.spectrum = p.spectrum ∧ p'.lpf = p.lpf ∧
      p'.lf0.length = p.lf0.length ∧
      ∀ f, f < p.lf0.length →
        p'.lf0.getD f [] =
          if (maskCreate s1.stream thr p.durations).getD f false then (p.lf0.getD f []).map (· + h * Consts.halfTone)
          else p.lf0.getD f [] :=
  engineParams_halfTone c h hh h0 b inp hwf s1 hs1 thr hthr hstatic hsum hnonneg hdflt hpos hu

/-- **C15 from the voice files, the "nothing else" half.** On a well-formed voice set, appending
    `set_additional_half_tone(h)` to any history leaves the durations, the spectral trajectory and the low-pass trajectory
    exactly as with `h = 0`, and the log-F0 trajectory keeps its length — for every `h`, no assumption on windows,
    variances or the clamp. (The shift itself, `Synth.params_halfTone_shift`, carries the engine-level theorem's
    hypotheses stated on `Models::model_stream(1)`.) -/
theorem library_half_tone_nothing_else {K : Type} [Field K] [LinearOrder K] [IsStrictOrderedRing K] [FloorRing K]
    [Transc K] [Consts K] [MlpgConsts K] [FromFile K] (big : K) (voices : List Hts.ParsedVoice) (iw : IW K)
    (h : Synth.VoicesWF voices iw) (v0 : Hts.ParsedVoice) (hv0 : voices.head? = some v0) (ops : List (CondOp K))
    (f : Condition K → Bool) (hf : Synth.SpeedOnly f) (labels : List (List Char)) (times : List (K × K))
    (halign : (Synth.condOf (K := K) v0 ops).alignment = true → times.length = labels.length) (ht : K) :
    ∃ p p', Synth.params big voices iw (ops ++ [.ht 0]) f labels times = .ok p ∧
      Synth.params big voices iw (ops ++ [.ht ht]) f labels times = .ok p' ∧
      p'.durations = p.durations ∧ p'.spectrum = p.spectrum ∧ p'.lpf = p.lpf ∧ p'.lf0.length = p.lf0.length := by
  obtain ⟨p, p', hp, hp', e1, e2, e3⟩ := Synth.params_congr big voices iw h v0 hv0 (ops ++ [.ht 0]) (ops ++ [.ht ht]) f
    hf labels times (by simpa [Synth.condOf_snoc, stepC_ht] using halign) (by simp [Synth.condOf_snoc, stepC_ht])
    (by simp [Synth.condOf_snoc, stepC_ht])
  have e3' : ∀ j < 3, j ≠ 1 → p'.traj j = p.traj j := fun j hj3 hj =>
    e3 j hj3 (by simp [Synth.StreamSame, Synth.condOf_snoc, stepC_ht, hj])
  exact ⟨p, p', hp, hp', e1, e3' 0 (by decide) (by decide), e3' 2 (by decide) (by decide), e2 1⟩

end Jb.C15
