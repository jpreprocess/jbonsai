/-
  C07 — excitation has the model's pitch and unit power.

  Theorems (ordered floor field, exact arithmetic) about the pulse logic of `Jb/Model/Vocoder.lean`
  (`excStart`, `pulseStep`, `periodOfLf0`, `rnd`) and about the mixed-excitation ring buffer: one call of
  `excGet` is one overlap-add step with contribution `pulse·h + noise·(δ_centre − h)` (voiced) or the noise
  at the centre tap (unvoiced), and an overlap-add buffer (`ringRun`, on any contribution vectors) is a convolver;
  composed over the samples the two read `h*pulses + (δ−h)*noise`, but no theorem iterates `excGet`.
  Unit mean power of the pulse train is `pulse_train_unit_power`: over any number of samples at a constant period the
  energy differs from the sample count by less than one period. The noise statistics (zero mean, unit variance of one
  fixed pseudo-random sequence) are decided by execution.
-/
import Jb.Proofs.Ring

set_option linter.unusedSectionVars false

namespace Jb.C07

variable {K : Type} [Field K] [LinearOrder K] [IsStrictOrderedRing K] [FloorRing K] [Transc K] [Consts K]

/-- One sample of the pulse generator: the counter goes up by one; once it exceeds the period (`>`, the repaired
    test) an impulse of height `sqrt(T0)` fires and the period is taken off the counter. -/
theorem pulse_step (e : ExcSt K) :
    (e.pitchOfCurr < e.pitchCounter + 1 →
      pulseStep e = (Transc.sqrt e.pitchOfCurr, { e with pitchCounter := e.pitchCounter + 1 - e.pitchOfCurr })) ∧
    (¬ e.pitchOfCurr < e.pitchCounter + 1 →
      pulseStep e = (0, { e with pitchCounter := e.pitchCounter + 1 })) := by
  rw [pulseStep_eq]
  exact ⟨fun h => if_pos h, fun h => if_neg h⟩

set_option linter.unusedVariables false in
/-- Impulses have height `sqrt(T0)`; a (re)start fires at once and leaves the counter at 1.
    (`hp` is not needed.) -/
theorem start_fires_sqrt (e : ExcSt K) (p : K) (hp : 1 ≤ p) (hsil : e.pitchOfCurr = 0) (fp : Nat) :
    let e' := excStart e p fp
    e'.pitchOfCurr = p ∧ e'.pitchCounter = p ∧ e'.pitchInc = 0 ∧
    pulseStep e' = (Transc.sqrt p, { e' with pitchCounter := 1 }) := by
  intro e'
  have he : e' = { e with pitchInc := 0, pitchOfCurr := p, pitchCounter := p } :=
    excStart_of_silent e p fp hsil
  rw [he, pulseStep_eq, if_pos (lt_add_one p)]
  exact ⟨rfl, rfl, rfl, by rw [add_sub_cancel_left]⟩

/-- **Gaps are ⌊T0⌋ or ⌈T0⌉**, as arithmetic on the counter. From any counter in `(0,1]` — which a start and
    every pulse leave behind — the pulse test `T0 < counter + i` first holds at `i = j` with `j ∈ {⌊T0⌋, ⌊T0⌋+1}`,
    `j = T0` when `T0` is an integer, and the counter is then back in `(0,1]`; so, gap after gap, every gap of a
    constant-F0 stretch is ⌊T0⌋ or ⌈T0⌉. (`pulseStep` is not iterated in this statement; the mean power of the
    train is `pulse_train_unit_power`.) -/
theorem gap_floor_or_ceil (p c : K) (hp : 1 ≤ p) (hc0 : 0 < c) (hc1 : c ≤ 1) :
    let j := ⌊p - c⌋₊ + 1
    (∀ i, i < j → i ≥ 1 → ¬ p < c + (i : K)) ∧ p < c + (j : K) ∧
    (j = ⌊p⌋₊ ∨ j = ⌊p⌋₊ + 1) ∧ ((p = (⌊p⌋₊ : K)) → j = ⌊p⌋₊) ∧
    0 < c + (j : K) - p ∧ c + (j : K) - p ≤ 1 :=
  pulse_gap p c hp hc0 hc1

/-- The period glides linearly across the frame when F0 changes between two voiced frames: `excStart` sets the
    per-sample increment so that `fperiod` of them add up to the change. -/
theorem glide (e : ExcSt K) (p : K) (fp : Nat) (hfp : 0 < fp) (h0 : e.pitchOfCurr ≠ 0) (hp : p ≠ 0) :
    (excStart e p fp).pitchInc = (p - e.pitchOfCurr) / (fp : K) ∧
    (excStart e p fp).pitchOfCurr = e.pitchOfCurr ∧
    e.pitchOfCurr + (fp : K) * (excStart e p fp).pitchInc = p :=
  glide_linear e p fp hfp h0 hp

/-- `T0 = rate / F0`, `F0 = exp(log-F0)` limited to the constants' range; no-data means unvoiced. -/
theorem period (rate : Nat) (lf0 : K) :
    periodOfLf0 rate (Consts.nodata : K) = 0 ∧
    (lf0 ≠ Consts.nodata →
      periodOfLf0 rate lf0 = (rate : K) / Transc.exp (clampS lf0 Consts.minLf0 Consts.maxLf0)) :=
  ⟨period_nodata rate, period_voiced rate lf0⟩

/-- uniform deviates of the fixed LCG lie in `[0,1]` -/
theorem lcg_range (st : RandomSt K) : 0 ≤ (rnd st).1 ∧ (rnd st).1 ≤ 1 := by
  have hr : (((st.next * 1103515245 + 12345) / 65536) % 32768).toNat < 32767 + 1 := by
    rw [UInt64.toNat_mod]; exact Nat.mod_lt _ (by decide)
  have hpos : (0 : K) < ((32767 : Nat) : K) := Nat.cast_pos.mpr (by decide)
  exact ⟨div_nonneg (Nat.cast_nonneg _) hpos.le,
    (div_le_one hpos).mpr (Nat.cast_le.mpr (Nat.le_of_lt_succ hr))⟩

/-- **Mixed excitation, step.** One `excGet` on a buffer of length `L ≥ 1` with a low-pass of the same
    length is one overlap-add step with the contribution `noise·(δ_{i,centre} − h[i]) + pulse·h[i]` in a
    voiced sample and the noise at the centre tap in an unvoiced one. -/
theorem mixed_excitation_step (e : ExcSt K) (lpf : List K) (hL : 1 ≤ e.ring.length) (hlen : lpf.length = e.ring.length) :
    let noise := (nrandom e.random).1
    let L := e.ring.length
    let contrib :=
      if e.pitchOfCurr = 0 then unvoicedContrib L noise
      else voicedContrib L noise (pulseStep { e with random := (nrandom e.random).2 }).1 lpf
    (excGet e lpf).1 = (ringStep e.ring contrib).1 ∧ (excGet e lpf).2.ring = (ringStep e.ring contrib).2 :=
  excGet_is_ringStep e lpf hL hlen

/-- **Mixed excitation, signal.** An overlap-add buffer convolves: for any contribution vectors, output `n` of
    `ringRun` is `Σ_{i<L} contrib_{n−i}[i]`. With the contributions of `mixed_excitation_step` that reads
    `Σ_i h[i]·pulse[n−i] + noise[n−c] − Σ_i h[i]·noise[n−i]`, i.e. `h*pulses + (δ−h)*noise`; this instantiation
    (`excGet` iterated over the samples) is not part of the statement. -/
theorem mixed_excitation_convolution (L : Nat) (hL : 1 ≤ L) (contribs : List (List K)) (hc : ∀ c ∈ contribs, c.length = L)
    (n : Nat) (hn : n < contribs.length) :
    (ringRun (List.replicate L 0) contribs).getD n 0 =
      (Finset.range L).sum fun i => if i ≤ n then (contribs.getD (n - i) []).getD i 0 else 0 :=
  ringRun_conv L hL contribs hc n hn

/-- The arithmetic of the pinned commit's defect (a `>=` pulse test, which the model does not have): with period 3
    and counter 1, `3 ≤ 1 + i` first holds at `i = 2`, a first gap of 2. No model function occurs. -/
theorem pinned_first_gap_short : let p : ℚ := 3; let c : ℚ := 1
    (¬ p ≤ c + 1) ∧ p ≤ c + 2 := by
  norm_num

/-- With the `>` test of `pulseStep`, for period 3 and counter 1, `3 < 1 + i` first holds at `i = 3`: a first gap of 3
    (arithmetic on rationals only). -/
theorem fixed_first_gap_exact : let p : ℚ := 3; let c : ℚ := 1
    (¬ p < c + 1) ∧ (¬ p < c + 2) ∧ p < c + 3 := by
  norm_num

/-- The arithmetic of the open finding `C07:short-gap-after-downward-glide`: the hypothesis "counter in (0, 1]" of
    `gap_floor_or_ceil` is necessary. With `T0 = 20` and counter `3/2` the test `T0 < counter + i` first holds at
    `i = 19 < ⌊T0⌋` (`counter + 18 ≤ T0 < counter + 19`). That a steep downward glide of the period leaves a counter
    above 1 behind is seen on runs; no model function occurs in the statement. -/
theorem counter_above_one_shortens_gap : let p : ℚ := 20; let c : ℚ := 3 / 2
    (¬ p < c + 18) ∧ p < c + 19 := by
  norm_num

/-- **Energy bookkeeping.** Over `n` samples at a constant period `p ≥ 1`, starting with the counter in `(0, p]`, the
    energy of the pulse train is exactly `n + c₀ − c_n` (`c` the counter), the counter stays in `(0, p]` and the
    period is untouched. -/
theorem pulse_train_energy (e : ExcSt K) (hp : 1 ≤ e.pitchOfCurr) (hc0 : 0 < e.pitchCounter)
    (hc : e.pitchCounter ≤ e.pitchOfCurr)
    (hsqrt : Transc.sqrt e.pitchOfCurr * Transc.sqrt e.pitchOfCurr = e.pitchOfCurr) (n : Nat) :
    ((pulseRun e n).1.map fun x => x * x).sum = (n : K) + e.pitchCounter - (pulseRun e n).2.pitchCounter ∧
    0 < (pulseRun e n).2.pitchCounter ∧ (pulseRun e n).2.pitchCounter ≤ e.pitchOfCurr ∧
    (pulseRun e n).2.pitchOfCurr = e.pitchOfCurr := by
  induction n generalizing e with
  | zero => exact ⟨by simp [pulseRun], hc0, hc, rfl⟩
  | succ n ih =>
    obtain ⟨s1, s2, s3⟩ := pulseStep_energy e hp hc0 hc hsqrt
    have hper := pulseStep_period e
    obtain ⟨h1, h2, h3, h4⟩ := ih (pulseStep e).2 (hper ▸ hp) s2 (hper ▸ s3) (hper ▸ hsqrt)
    rw [pulseRun_succ, List.map_cons, List.sum_cons, h1, s1, h4, hper]
    exact ⟨by push_cast; ring, h2, hper ▸ h3, rfl⟩

/-- **Mean power 1**: the energy of any `n` samples differs from `n` by less than one period, so the mean power tends
    to 1 (it is within `p/n` of 1) — the height `sqrt(T0)` is exactly what a spacing of `T0` needs. -/
theorem pulse_train_unit_power (e : ExcSt K) (hp : 1 ≤ e.pitchOfCurr) (hc0 : 0 < e.pitchCounter)
    (hc : e.pitchCounter ≤ e.pitchOfCurr)
    (hsqrt : Transc.sqrt e.pitchOfCurr * Transc.sqrt e.pitchOfCurr = e.pitchOfCurr) (n : Nat) :
    |((pulseRun e n).1.map fun x => x * x).sum - (n : K)| < e.pitchOfCurr := by
  obtain ⟨h1, h2, h3, _⟩ := pulse_train_energy e hp hc0 hc hsqrt n
  rw [h1, abs_lt]
  constructor <;> linarith only [hc0, hc, h2, h3]

/-- every sample of the train is `0` or `sqrt(T0)` -/
theorem pulse_train_values (e : ExcSt K) (n : Nat) :
    ∀ x ∈ (pulseRun e n).1, x = 0 ∨ x = Transc.sqrt e.pitchOfCurr := by
  -- the period is a parameter of the induction: every step keeps it (`pulseStep_period`)
  suffices h : ∀ p (e : ExcSt K), e.pitchOfCurr = p → ∀ x ∈ (pulseRun e n).1, x = 0 ∨ x = Transc.sqrt p from
    h _ e rfl
  intro p
  induction n with
  | zero => exact fun _ _ x hx => nomatch hx
  | succ n ih =>
    intro e hp
    rw [pulseRun_succ, List.forall_mem_cons]
    exact ⟨hp ▸ pulseStep_value e, ih _ ((pulseStep_period e).trans hp)⟩

end Jb.C07
