/-
  `lsp2lpc` (`Jb/Model/Vocoder.lean`) returns the coefficients of `A(z) = ½ (P(z) + Q(z))`, where `P` and
  `Q` are the products of the second-order sections `1 − 2cos(w) z⁻¹ + z⁻²` over the odd- and
  even-numbered line spectral frequencies, times `(1 + z⁻¹)`, `(1 − z⁻¹)` (even order) or `1`, `(1 − z⁻²)`
  (odd order).
  The cascade is run on sequences `ℕ → K`, where every step is definitional; power series only identify the sequence it
  puts out with the coefficients of the product polynomial (`getD_polyMul_sections`).
-/
import Jb.Model.Vocoder
import Jb.Proofs.ListAux
import Mathlib.RingTheory.PowerSeries.Basic

namespace Jb

section
variable {K : Type} [Field K]

/-- coefficient `k` of the product of two polynomials given as coefficient lists (in `z⁻¹`) -/
def polyMulCoef (a b : List K) (k : Nat) : K :=
  (Finset.range (k + 1)).sum fun i => a.getD i 0 * b.getD (k - i) 0

def polyMul (a b : List K) : List K :=
  if a.isEmpty || b.isEmpty then [] else (List.range (a.length + b.length - 1)).map (polyMulCoef a b)

/-- `Π (1 + p z⁻¹ + z⁻²)` over a list of middle coefficients -/
def sectionsPoly : List K → List K
  | [] => [1]
  | p :: ps => polyMul [1, p, 1] (sectionsPoly ps)

variable [Transc K] in
/-- the reference polynomial `½(P + Q)` for line spectral frequencies `lsp` -/
def lspRefPoly (lsp : List K) : List K :=
  let m := lsp.length
  let two : K := ((2 : Nat) : K)
  let evens := ((List.range m).zip lsp).filter (fun x => x.1 % 2 = 0) |>.map (·.2)
  let odds := ((List.range m).zip lsp).filter (fun x => x.1 % 2 = 1) |>.map (·.2)
  let pp := sectionsPoly (evens.map fun x => -two * Transc.cos x)
  let qq := sectionsPoly (odds.map fun x => -two * Transc.cos x)
  let (pfac, qfac) : List K × List K := if m % 2 = 1 then ([1], [1, 0, -1]) else ([1, 1], [1, -1])
  let P := polyMul pfac pp
  let Q := polyMul qfac qq
  (List.range (m + 1)).map fun k => (1 / two) * (P.getD k 0 + Q.getD k 0)

/-- the pair `(pfac, qfac)` that `lspRefPoly` selects by the parity of the order (its inline `if` unfolds to this):
    `(1, 1 − z⁻²)` for odd order, `(1 + z⁻¹, 1 − z⁻¹)` for even -/
def lspFac (odd : Prop) [Decidable odd] : List K × List K :=
  if odd then ([1], [1, 0, -1]) else ([1, 1], [1, -1])

def delaySeq (u : Nat → K) : Nat → K
  | 0 => 0
  | n + 1 => u n

/-- the section `1 + p z⁻¹ + z⁻²` applied to a sequence -/
def secSeq (p : K) (u : Nat → K) (n : Nat) : K := u n + p * delaySeq u n + delaySeq (delaySeq u) n

def secsSeq : List K → (Nat → K) → Nat → K
  | [], u => u
  | p :: ps, u => secsSeq ps (secSeq p u)

/-- memory of the sections of a cascade driven by `u`, before time `n` -/
def stateAt : List K → (Nat → K) → Nat → List (K × K)
  | [], _, _ => []
  | p :: ps, u, n => (delaySeq u n, delaySeq (delaySeq u) n) :: stateAt ps (secSeq p u) n

theorem stateAt_zero (ps : List K) (u : Nat → K) :
    stateAt ps u 0 = List.replicate ps.length (0, 0) := by
  induction ps generalizing u with
  | nil => rfl
  | cons p ps ih => rw [stateAt, ih, List.length_cons, List.replicate_succ]; rfl

theorem secsSeq_zero (ps : List K) (u : Nat → K) : secsSeq ps u 0 = u 0 := by
  induction ps generalizing u with
  | nil => rfl
  | cons p ps ih => rw [secsSeq, ih, secSeq, delaySeq, delaySeq, mul_zero, add_zero, add_zero]

theorem lspCascade_aux (ps : List K) (u : Nat → K) (n : Nat) (pre : List (K × K)) :
    (ps.zip (stateAt ps u n)).foldl (fun (acc : K × List (K × K)) (p, (a1, a2)) =>
      (acc.1 + p * a1 + a2, acc.2 ++ [(acc.1, a1)])) (u n, pre)
    = (secsSeq ps u n, pre ++ stateAt ps u (n + 1)) := by
  induction ps generalizing u pre with
  | nil => rw [stateAt, List.zip_nil_right, List.foldl_nil, stateAt, List.append_nil]; rfl
  | cons p ps ih =>
    rw [stateAt, List.zip_cons_cons, List.foldl_cons]
    exact (ih (secSeq p u) _).trans (by rw [List.append_assoc]; rfl)

/-- a cascade whose memory is that of the input `u` up to time `n` puts out sample `n` of the cascade of `u` -/
theorem lspCascade_run (ps : List K) (u : Nat → K) (n : Nat) :
    lspCascade (u n) ps (stateAt ps u n) = (secsSeq ps u n, stateAt ps u (n + 1)) :=
  (lspCascade_aux ps u n []).trans (by rw [List.nil_append])

/-- the unit pulse `xx` of the loop -/
def pulseSeq (n : Nat) : K := if n = 0 then 1 else 0

/-- the inputs of the two cascades as sequences: the loop keeps the pulse in a two-cell delay line `xf`, `xff`
    (`xff` is only written for odd order) -/
def lspIn (odd : Prop) [Decidable odd] : (Nat → K) × (Nat → K) :=
  if odd then (pulseSeq, fun n => pulseSeq n - delaySeq (delaySeq pulseSeq) n)
  else (fun n => pulseSeq n + delaySeq pulseSeq n, fun n => pulseSeq n - delaySeq pulseSeq n)

/-- the front end of the loop feeds the cascades sample `n` of `lspIn` and shifts the delay line -/
theorem lspIn_step (odd : Prop) [Decidable odd] (n : Nat) :
    ((if odd then
        (pulseSeq n, pulseSeq n - (if odd then delaySeq (delaySeq pulseSeq) n else 0), pulseSeq n, delaySeq pulseSeq n)
      else
        (pulseSeq n + delaySeq pulseSeq n, pulseSeq n - delaySeq pulseSeq n, pulseSeq n,
          if odd then delaySeq (delaySeq pulseSeq) n else 0)) : K × K × K × K) =
    ((lspIn odd).1 n, (lspIn odd).2 n, delaySeq pulseSeq (n + 1),
      if odd then delaySeq (delaySeq pulseSeq) (n + 1) else 0) := by
  unfold lspIn
  split <;> rfl

/-- the recorded outputs after `n` time steps -/
def outsN (g : Nat → K) (n : Nat) : List K := (List.range (n - 1)).map fun j => g (j + 1)

omit [Field K] in
theorem outsN_succ (g : Nat → K) (n : Nat) :
    (if n > 0 then outsN g n ++ [g n] else outsN g n) = outsN g (n + 1) := by
  rcases n with _ | n
  · simp [outsN]
  · simp [outsN, List.range_succ]

theorem polyMulCoef_eq_zero (a b : List K) (k : Nat) (h : a.length + b.length ≤ k + 1) :
    polyMulCoef a b k = 0 := by
  refine Finset.sum_eq_zero fun i hi => ?_
  rw [Finset.mem_range] at hi
  by_cases hia : i < a.length
  · rw [List.getD_eq_default b 0 (by omega), mul_zero]
  · rw [List.getD_eq_default a 0 (by omega), zero_mul]

theorem getD_polyMul (a b : List K) (k : Nat) : (polyMul a b).getD k 0 = polyMulCoef a b k := by
  unfold polyMul
  split
  · rename_i h
    simp only [Bool.or_eq_true, List.isEmpty_iff] at h
    rw [List.getD_nil]
    rcases h with rfl | rfl
    · exact (Finset.sum_eq_zero fun i _ => by rw [List.getD_nil, zero_mul]).symm
    · exact (Finset.sum_eq_zero fun i _ => by rw [List.getD_nil, mul_zero]).symm
  · by_cases hk : k < a.length + b.length - 1
    · rw [List.getD_eq_getElem _ _ (by rw [List.length_map, List.length_range]; exact hk), List.getElem_map,
        List.getElem_range]
    · rw [List.getD_eq_default _ _ (by rw [List.length_map, List.length_range]; omega),
        polyMulCoef_eq_zero _ _ _ (by omega)]

open PowerSeries

/-- a coefficient list as a power series in `z⁻¹` -/
def toPS (a : List K) : K⟦X⟧ := PowerSeries.mk fun i => a.getD i 0

theorem coeff_toPS (a : List K) (k : Nat) : coeff k (toPS a) = a.getD k 0 := coeff_mk _ _

theorem toPS_polyMul (a b : List K) : toPS (polyMul a b) = toPS a * toPS b := by
  ext k
  rw [coeff_toPS, getD_polyMul, coeff_mul,
    Finset.Nat.sum_antidiagonal_eq_sum_range_succ (fun i j => coeff i (toPS a) * coeff j (toPS b))]
  simp only [coeff_toPS]
  rfl

theorem mk_delaySeq (u : Nat → K) : PowerSeries.mk (delaySeq u) = X * PowerSeries.mk u := by
  ext n
  cases n with
  | zero => rw [coeff_mk, coeff_zero_X_mul]; rfl
  | succ n => rw [coeff_mk, coeff_succ_X_mul, coeff_mk]; rfl

theorem toPS_nil : toPS ([] : List K) = 0 := by
  ext n
  rw [coeff_toPS, List.getD_nil, map_zero]

theorem toPS_cons (a : K) (l : List K) : toPS (a :: l) = C a + X * toPS l := by
  ext n
  cases n with
  | zero => rw [coeff_toPS, map_add, coeff_zero_C, coeff_zero_X_mul, add_zero, List.getD_cons_zero]
  | succ n =>
    rw [coeff_toPS, map_add, coeff_succ_X_mul, coeff_toPS, coeff_C, if_neg n.succ_ne_zero, zero_add,
      List.getD_cons_succ]

theorem mk_secSeq (p : K) (u : Nat → K) : PowerSeries.mk (secSeq p u) = toPS [1, p, 1] * PowerSeries.mk u := by
  rw [toPS_cons, toPS_cons, toPS_cons, toPS_nil, mul_zero, add_zero, map_one, mul_one, add_mul, one_mul, mul_assoc,
    add_mul, mul_add, mul_left_comm X (C p), ← mk_delaySeq, ← mk_delaySeq]
  ext n
  rw [map_add, map_add, coeff_C_mul, coeff_mk, coeff_mk, coeff_mk, coeff_mk, ← add_assoc]
  rfl

/-- the cascade of sections multiplies by `Π (1 + p z⁻¹ + z⁻²)` -/
theorem mk_secsSeq (ps : List K) (u : Nat → K) :
    PowerSeries.mk (secsSeq ps u) = toPS (sectionsPoly ps) * PowerSeries.mk u := by
  induction ps generalizing u with
  | nil => rw [sectionsPoly, toPS_cons, toPS_nil, mul_zero, add_zero, map_one, one_mul]; rfl
  | cons p ps ih => rw [secsSeq, ih, mk_secSeq, sectionsPoly, toPS_polyMul, mul_left_comm, mul_assoc]

theorem getD_polyMul_sections (fac ps : List K) (n : Nat) :
    (polyMul fac (sectionsPoly ps)).getD n 0 = secsSeq ps (fun i => fac.getD i 0) n := by
  rw [← coeff_toPS, toPS_polyMul, mul_comm]
  exact (congrArg (coeff n) (mk_secsSeq ps _)).symm.trans (coeff_mk _ _)

theorem lspIn_eq (odd : Prop) [Decidable odd] :
    (lspIn odd).1 = (fun i => (lspFac odd : List K × List K).1.getD i 0) ∧
      (lspIn odd).2 = fun i => (lspFac odd : List K × List K).2.getD i 0 := by
  -- four sequences, each fixed by its first three values and zero from then on
  have hval : ∀ n : Nat,
      (pulseSeq n : K) = [1].getD n 0 ∧
        pulseSeq n - delaySeq (delaySeq pulseSeq) n = ([1, 0, -1] : List K).getD n 0 ∧
        pulseSeq n + delaySeq pulseSeq n = ([1, 1] : List K).getD n 0 ∧
          pulseSeq n - delaySeq pulseSeq n = ([1, -1] : List K).getD n 0 := by
    intro n
    rcases n with _ | _ | _ | n <;>
      simp only [pulseSeq, delaySeq, List.getD_cons_zero, List.getD_cons_succ, List.getD_nil, if_true, if_false,
        add_zero, zero_add, sub_zero, zero_sub, sub_self, Nat.succ_ne_zero, one_ne_zero, and_self]
  unfold lspIn lspFac
  split
  · exact ⟨funext fun n => (hval n).1, funext fun n => (hval n).2.1⟩
  · exact ⟨funext fun n => (hval n).2.2.1, funext fun n => (hval n).2.2.2⟩

/-- the recorded outputs are the coefficients of `½(P + Q)` -/
theorem lsp_outs (odd : Prop) [Decidable odd] (half : K) (hh : half * 2 = 1) (p q : List K) (m : Nat) :
    1 :: ((outsN (fun k => -half * (secsSeq p (lspIn odd).1 k + secsSeq q (lspIn odd).2 k)) (m + 1)).map fun x => -x) =
      (List.range (m + 1)).map fun k => half *
        ((polyMul (lspFac odd).1 (sectionsPoly p)).getD k 0 + (polyMul (lspFac odd).2 (sectionsPoly q)).getD k 0) := by
  have h0 : (lspFac odd : List K × List K).1.getD 0 0 = 1 ∧ (lspFac odd : List K × List K).2.getD 0 0 = 1 := by
    unfold lspFac
    split <;> exact ⟨rfl, rfl⟩
  simp only [getD_polyMul_sections]
  rw [(lspIn_eq odd).1, (lspIn_eq odd).2, outsN, Nat.add_sub_cancel, List.map_map, List.range_succ_eq_map,
    List.map_cons, List.map_map, secsSeq_zero, secsSeq_zero, h0.1, h0.2, one_add_one_eq_two, hh]
  congr 1
  refine List.map_congr_left fun j _ => ?_
  simp only [Function.comp, neg_mul, neg_neg]

theorem length_parity_filter {β : Type} (l : List β) :
    (((List.range l.length).zip l).filter (fun x => decide (x.1 % 2 = 0))).length
        = (l.length + 1) / 2 ∧
    (((List.range l.length).zip l).filter (fun x => decide (x.1 % 2 = 1))).length
        = l.length / 2 := by
  induction l using List.reverseRecOn with
  | nil => simp
  | append_singleton l a ih =>
    rw [List.length_append, List.length_singleton, List.range_succ,
      List.zip_append (by simp), List.filter_append, List.filter_append, List.length_append,
      List.length_append, ih.1, ih.2]
    -- the new index `l.length` goes to the evens or to the odds
    rcases Nat.mod_two_eq_zero_or_one l.length with h | h <;>
      simp only [List.zip_cons_cons, List.zip_nil_right, List.filter_cons, List.filter_nil, h, decide_true,
        decide_false, Nat.zero_ne_one, Nat.one_ne_zero, if_true, if_false, List.length_cons, List.length_nil,
        Bool.false_eq_true] <;>
      omega

/-- **`lsp2lpc` = ½(P + Q)** of the frequencies it reads: all of `v` at the pinned commit, `v` without the gain after
    the repair. -/
theorem lsp2lpc_eq_refPoly [LinearOrder K] [IsStrictOrderedRing K] [Transc K] (fx : Fix) (v : List K) :
    lsp2lpc fx v = lspRefPoly (if fx.lspSkipGain then v.drop 1 else v) := by
  unfold lsp2lpc lspRefPoly
  dsimp only
  generalize (if fx.lspSkipGain = true then List.drop 1 v else v) = lsp
  obtain ⟨he, ho⟩ := length_parity_filter lsp
  generalize hp : List.map (fun x => -((2 : Nat) : K) * Transc.cos x) (List.map (fun x => x.2)
    (List.filter (fun x => decide (x.1 % 2 = 0)) ((List.range lsp.length).zip lsp))) = p
  generalize hq : List.map (fun x => -((2 : Nat) : K) * Transc.cos x) (List.map (fun x => x.2)
    (List.filter (fun x => decide (x.1 % 2 = 1)) ((List.range lsp.length).zip lsp))) = q
  rw [show (if lsp.length % 2 = 1 then (lsp.length + 1) / 2 else lsp.length / 2) = p.length by
      rw [← hp, List.length_map, List.length_map, he]; split <;> omega,
    show (if lsp.length % 2 = 1 then (lsp.length - 1) / 2 else lsp.length / 2) = q.length by
      rw [← hq, List.length_map, List.length_map, ho]; split <;> omega]
  -- the loop state after `n` steps
  rw [foldl_range_eq _ _ (fun n => (outsN (fun k => -(1 / ((2 : Nat) : K)) *
      (secsSeq p (lspIn (lsp.length % 2 = 1)).1 k + secsSeq q (lspIn (lsp.length % 2 = 1)).2 k)) n,
      stateAt p (lspIn (lsp.length % 2 = 1)).1 n, stateAt q (lspIn (lsp.length % 2 = 1)).2 n,
      delaySeq pulseSeq n, if lsp.length % 2 = 1 then delaySeq (delaySeq pulseSeq) n else 0))]
  · -- `lspRefPoly`'s `(pfac, qfac)` is `lspFac`
    exact lsp_outs _ _ (by norm_num) p q lsp.length
  · rw [stateAt_zero, stateAt_zero]; exact Prod.ext rfl (by simp only [delaySeq, ite_self])
  · intro n
    dsimp only
    rw [show (if n = 0 then (1 : K) else 0) = pulseSeq n from rfl, lspIn_step]
    dsimp only
    rw [lspCascade_run, lspCascade_run, outsN_succ]

/-- read off `lsp2lpc`, which visibly starts with `1` and appends one coefficient per time step -/
theorem lspRefPoly_cons [LinearOrder K] [IsStrictOrderedRing K] [Transc K] (lsp : List K) :
    ∃ a, lspRefPoly lsp = 1 :: a ∧ a.length = lsp.length := by
  have h : lsp2lpc ⟨true, true⟩ (0 :: lsp) = lspRefPoly lsp := lsp2lpc_eq_refPoly ⟨true, true⟩ (0 :: lsp)
  refine ⟨(lsp2lpc ⟨true, true⟩ (0 :: lsp)).tail, ?_, ?_⟩
  · rw [← h]; rfl
  · rw [h, lspRefPoly, List.length_tail, List.length_map, List.length_range, Nat.add_sub_cancel]

end

section
variable {K : Type} [Field K] [LinearOrder K] [IsStrictOrderedRing K] [Transc K] [Consts K]

set_option linter.unusedSectionVars false in
/-- **`lsp2lpc` = ½(P + Q).** (Repaired code: the frequencies are the elements after the gain.) -/
theorem lsp2lpc_poly (b : Bool) (g : K) (lsp : List K) :
    lsp2lpc ⟨b, true⟩ (g :: lsp) = lspRefPoly lsp :=
  lsp2lpc_eq_refPoly ⟨b, true⟩ (g :: lsp)

end

end Jb
