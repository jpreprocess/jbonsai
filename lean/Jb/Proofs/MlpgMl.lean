/-
  The trajectory `MlpgAdjust::create` returns (no GV) is the maximum-likelihood static sequence for the
  Gaussians and windows it was given. Two things remain after `MlpgMain.lean`: that a solution of the dense
  normal equations is the likelihood maximiser of the scalar observations `obsOf` (their gradient is
  `W'PW c − W'Pμ` with exactly the entries `wpwEntry`, `wpmEntry`), and that the observation sequences `create`
  builds are an `MlpgProblem` — the point being `windowParams_edgeZero`: precisions whose window span leaves the
  voiced frames have been zeroed.
-/
import Jb.Proofs.MlpgMain
import Jb.Proofs.MlpgShape

namespace Jb

variable {K : Type} [Field K] [LinearOrder K] [IsStrictOrderedRing K]

omit [LinearOrder K] [IsStrictOrderedRing K] in
/-- for the observations `obsOf` the Gram entries of `normalResidual_eq` are `wpwEntry` and `wpmEntry` -/
theorem normalResidual_obsOf (windows : List (List K)) (obs : List (List (MeanVari K))) (T : Nat)
    (c : Fin T → K) (t : Fin T) :
    normalResidual (obsOf windows obs T) c t =
      ∑ t' : Fin T, wpwEntry windows obs T t t' * c t' - wpmEntry windows obs T t := by
  rw [normalResidual_eq, sum_obsOf]
  simp only [sum_obsOf]
  rfl

theorem mlpg_maximises_likelihood {windows : List (List K)} {obs : List (List (MeanVari K))} {T : Nat}
    (P : MlpgProblem windows obs T) (m : MlpgMatrix K) (hm : calcWuwWum windows obs = some m) (c' : Fin T → K) :
    loglik (obsOf windows obs T) c' ≤ loglik (obsOf windows obs T) (fun t => m.solve.getD t.val 0) := by
  obtain ⟨-, hsol⟩ := P.solves hm
  refine normal_eq_is_max _ (fun o ho => ?_) _ (fun t => ?_) c'
  · obtain ⟨wo, hwo, ho⟩ := List.mem_flatMap.1 ho
    obtain ⟨s, _, rfl⟩ := List.mem_map.1 ho
    exact getD_vari_nonneg wo.2 (P.nonneg wo.2 (List.of_mem_zip hwo).2) s
  · rw [normalResidual_obsOf, Fin.sum_univ_eq_sum_range
      (fun t' => wpwEntry windows obs T t t' * m.solve.getD t' 0), hsol t t.isLt, sub_self]

variable [Transc K] [Consts K] [MlpgConsts K]

omit [IsStrictOrderedRing K] [Transc K] [Consts K] in
/-- a dynamic window whose span would leave the voiced frames (in voiced-frame coordinates) was zeroed -/
theorem windowParams_zero (veclen : Nat) (stream : List (StateParam K)) (durs : List Nat) (mask : List Bool)
    (wi : Nat) (win : List K) (m : Nat) (hd : durs.length ≤ stream.length) (hmask : mask.length = durs.sum)
    (hwi : wi ≠ 0) (s : Nat) (hs : s < (mask.filter id).length)
    (hcut : s < win.length / 2 ∨ (mask.filter id).length ≤ s + (win.length - 1 - win.length / 2)) :
    ((windowParams veclen stream durs mask (boundaryDistances mask) wi win m).getD s ⟨0, 0⟩).vari = 0 := by
  have hadj := wpAdj_length veclen stream durs (boundaryDistances mask) wi win m hd
    (by rw [boundaryDistances_length, hmask])
  obtain ⟨f, hf, hmf, hleft, hright, hget⟩ :=
    exists_frame_of_voiced_index (wpAdj veclen stream durs (boundaryDistances mask) wi win m) mask
      (by rw [hadj, hmask]) s hs
  -- the `s`-th voiced frame `f` has `s` voiced frames before it and, of `T` voiced frames in all, `T − s − 1` after
  -- it, so its runs of voiced neighbours are at most that long
  have hl : ((mask.take f).reverse.takeWhile id).length ≤ s := by
    have := takeWhile_id_length_le_filter (mask.take f).reverse
    rwa [List.filter_reverse, List.length_reverse, hleft] at this
  have hr := takeWhile_id_length_le_filter (mask.drop (f + 1))
  have hb : (boundaryDistances mask)[f]'(by rw [boundaryDistances_length]; exact hf) =
      (((mask.take f).reverse.takeWhile id).length, ((mask.drop (f + 1)).takeWhile id).length) := by
    have h := boundary_spec mask f hf
    rw [List.getD_eq_getElem?_getD, hmf, Option.getD_some, if_pos rfl] at h
    exact (List.getElem?_eq_some_iff.1 h).2
  rw [windowParams_eq, List.getD_eq_getElem?_getD, hget,
    List.getElem?_eq_getElem (by rw [hadj, ← hmask]; exact hf), Option.getD_some]
  unfold wpAdj
  rw [List.getElem_map, List.getElem_zip, hb]
  exact congrArg MeanVari.vari (if_pos ⟨by omega, hwi⟩)

set_option linter.unusedSectionVars false in
/-- **Edge precisions are zero**: what `windowParams` arranges is exactly the hypothesis of the assembly
    theorem, in voiced-frame coordinates. -/
theorem windowParams_edgeZero (veclen : Nat) (stream : List (StateParam K)) (thr : K) (durs : List Nat)
    (windows : List (List K)) (m : Nat) (hstatic : windows.head? = some [1]) (hd : durs.length ≤ stream.length) :
    EdgeZero windows (createObs veclen stream durs (maskCreate stream thr durs) windows m)
      ((maskCreate stream thr durs).filter id).length := by
  intro wo hwo s hs hcut
  obtain ⟨i, _, hwi, hw2⟩ := mem_zip_createObs hwo
  by_cases hi : i = 0
  · -- the static window `[1]` has half-width 0 and span 0: `hcut` says `s < 0 ∨ T ≤ s`
    subst hi
    rw [← List.head?_eq_getElem?, hstatic] at hwi
    simp only [Option.some.injEq] at hwi
    rw [← hwi] at hcut
    simp at hcut
    omega
  · rw [hw2]
    exact windowParams_zero veclen stream durs _ i wo.1 m hd (maskCreate_length stream thr durs hd) hi s hs hcut

theorem createObs_problem (veclen : Nat) (stream : List (StateParam K)) (thr : K) (durs : List Nat)
    (windows : List (List K)) (m : Nat) (hstatic : windows.head? = some [1]) (hd : durs.length ≤ stream.length)
    (hnonneg : ∀ st ∈ stream, ∀ p ∈ st.params, 0 ≤ (withIvar p).vari)
    (hdflt : 0 ≤ (withIvar (⟨0, 0⟩ : MeanVari K)).vari)
    (hpos : ∀ st ∈ stream, 0 < (withIvar (st.params.getD m ⟨0, 0⟩)).vari) :
    MlpgProblem windows (createObs veclen stream durs (maskCreate stream thr durs) windows m)
      ((maskCreate stream thr durs).filter id).length := by
  refine ⟨hstatic, (length_createObs ..).symm, length_of_mem_createObs veclen stream durs windows m thr hd,
    windowParams_edgeZero veclen stream thr durs windows m hstatic hd, ?_, ?_⟩
  · intro o ho mv hmv
    obtain ⟨wi, win, rfl⟩ := mem_createObs ho
    obtain ⟨st, hst, hv | ⟨hv, _⟩⟩ := mem_windowParams hmv
    · rw [hv]
      exact forall_getD (P := fun p => 0 ≤ (withIvar p).vari) hdflt (hnonneg st hst) _
    · rw [hv]
  · intro mv hmv
    rw [createObs_headD hstatic] at hmv
    obtain ⟨st, hst, hv | ⟨_, h0⟩⟩ := mem_windowParams hmv
    · rw [hv, Nat.mul_zero, Nat.zero_add]
      exact hpos st hst
    · exact absurd rfl h0

/-- **`MlpgAdjust::create` returns the maximum-likelihood trajectory** (stream without GV), column by column on the
    voiced frames. -/
theorem mlpgCreate_is_ml (gvWeight thr : K) (s : StreamIn K) (durs : List Nat)
    (hgv : s.gv = none) (hstatic : s.windows.head? = some [1]) (hd : durs.length ≤ s.stream.length)
    (hnonneg : ∀ st ∈ s.stream, ∀ p ∈ st.params, 0 ≤ (withIvar p).vari)
    (hdflt : 0 ≤ (withIvar (⟨0, 0⟩ : MeanVari K)).vari)
    (hpos : ∀ st ∈ s.stream, ∀ m, m < s.vectorLength → 0 < (withIvar (st.params.getD m ⟨0, 0⟩)).vari)
    (traj : List (List K)) (h : mlpgCreate gvWeight thr s durs = .ok traj) (m : Nat) (hm : m < s.vectorLength) :
    let mask := maskCreate s.stream thr durs
    let T := (mask.filter id).length
    let obs := createObs s.vectorLength s.stream durs mask s.windows m
    let col := filterBy (traj.map fun r => r.getD m 0) mask
    col.length = T ∧
    ∀ c' : Fin T → K, loglik (obsOf s.windows obs T) c' ≤ loglik (obsOf s.windows obs T) (fun t => col.getD t.val 0) := by
  intro mask T obs col
  have P : MlpgProblem s.windows obs T := createObs_problem s.vectorLength s.stream thr durs s.windows m hstatic hd
    hnonneg hdflt fun st hst => hpos st hst m hm
  obtain ⟨mtx, hmtx⟩ := P.exists_calc
  have hsolT := (P.calc hmtx).2.solve_spec.1
  obtain ⟨r, hr, hrlen, hfb, -⟩ := maskFill_spec mask mtx.solve Consts.nodata hsolT
  have hcol : mlpgCol gvWeight thr s durs m = some r := by
    rw [mlpgCol_of_calc gvWeight thr s durs m hmtx, hgv, MlpgMatrix.par_none]
    exact hr
  have hc : col = mtx.solve := by
    rw [← hfb, ← mlpgCreate_col gvWeight thr s durs traj h m hm r hcol hrlen]
  rw [hc]
  exact ⟨hsolT, mlpg_maximises_likelihood P mtx hmtx⟩

end Jb
