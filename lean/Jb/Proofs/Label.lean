/-
  Lemmas about `Jb/Model/Label.lean`: blank lines load as nothing; a line without a space is not split.
-/
import Jb.Model.Label

namespace Jb

variable {α L : Type} [Mul α] [Neg α] [OfNat α 1]

theorem loadLines_nil_cons (parseF : List Nat → Option α) (parseL : List Nat → Option L) (rate : α)
    (ls : List (List Nat)) : loadLines parseF parseL rate ([] :: ls) = loadLines parseF parseL rate ls := rfl

theorem loadLines_filter_blank (parseF : List Nat → Option α) (parseL : List Nat → Option L) (rate : α)
    (lines : List (List Nat)) :
    loadLines parseF parseL rate (lines.filter (· ≠ [])) = loadLines parseF parseL rate lines := by
  induction lines with
  | nil => rfl
  | cons l ls ih =>
    by_cases hl : l = []
    · rw [hl, List.filter_cons_of_neg (by simp), loadLines_nil_cons, ih]
    · rw [List.filter_cons_of_pos (by simpa using hl)]
      simp only [loadLines, ih]

theorem splitFirst_of_no_space (l : List Nat) (h : ∀ c ∈ l, c ≠ 32) : splitFirst l = (l, none) := by
  induction l with
  | nil => rfl
  | cons c cs ih =>
    simp only [splitFirst, if_neg (h c List.mem_cons_self), ih fun x hx => h x (List.mem_cons_of_mem _ hx)]

end Jb
