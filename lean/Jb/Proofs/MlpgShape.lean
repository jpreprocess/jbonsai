/-
  Shape of what the MLPG model (`Jb/Model/Mlpg.lean`) returns: lengths through mask, window parameters, band
  assembly, solver and GV iteration; the observation sequences `create` builds (`createObs`) and `mlpgCreate`
  column by column (`mlpgCol`); well-formed streams (`StreamWF`) yield one row per frame, and a GV switch list
  that does not cover every state does not (`MlpgShapeCex.lean`).
-/
import Jb.Proofs.Mask
import Jb.Proofs.Ldl
import Jb.Proofs.HmmObj
import Jb.Proofs.Gv

namespace Jb

section
variable {K : Type} [Field K] [LinearOrder K] [MlpgConsts K]

/-- well-formed stream: at least one window, every state has its `nwin · veclen` Gaussians -/
def StreamWF (s : StreamIn K) : Prop :=
  1 ≤ s.windows.length ∧ ∀ st ∈ s.stream, s.vectorLength * s.windows.length ≤ st.params.length

omit [Field K] [MlpgConsts K] in
theorem maskCreate_length (stream : List (StateParam K)) (thr : K) (durs : List Nat)
    (hd : durs.length ≤ stream.length) : (maskCreate stream thr durs).length = durs.sum := by
  unfold maskCreate
  rw [expand_length _ _ (by simpa using hd)]

omit [Field K] [MlpgConsts K] in
/-- a GV switch list that covers the states has, expanded and restricted to the voiced frames, one entry per
    voiced frame -/
theorem gvSwitch_filter_length (stream : List (StateParam K)) (thr : K) (durs : List Nat) (sw : List Bool)
    (hd : durs.length ≤ stream.length) (hsw : durs.length ≤ sw.length) :
    (filterBy (expand sw durs) (maskCreate stream thr durs)).length = ((maskCreate stream thr durs).filter id).length :=
  filterBy_length _ _ (by rw [expand_length _ _ hsw, maskCreate_length stream thr durs hd])

theorem boundaryDistances_length (mask : List Bool) : (boundaryDistances mask).length = mask.length := by
  simp [boundaryDistances, leftDists_length]

/-- the per-frame (unfiltered) observation list of `windowParams` -/
def wpAdj (veclen : Nat) (stream : List (StateParam K)) (durs : List Nat) (bd : List (Nat × Nat)) (wi : Nat)
    (win : List K) (m : Nat) : List (MeanVari K) :=
  ((expand (stream.map fun s => withIvar (s.params.getD (veclen * wi + m) ⟨0, 0⟩)) durs).zip bd).map
    fun (mv, (l, r)) =>
      if (l < win.length / 2 ∨ r < win.length - win.length / 2 - 1) ∧ wi ≠ 0 then (⟨mv.mean, 0⟩ : MeanVari K) else mv

/-- the observation sequences of `MlpgAdjust::create` for vector index `m` -/
def createObs (veclen : Nat) (stream : List (StateParam K)) (durs : List Nat) (mask : List Bool)
    (windows : List (List K)) (m : Nat) : List (List (MeanVari K)) :=
  ((List.range windows.length).zip windows).map fun (wi, win) =>
    windowParams veclen stream durs mask (boundaryDistances mask) wi win m

section
variable {veclen : Nat} {stream : List (StateParam K)} {durs : List Nat} {mask : List Bool} {bd : List (Nat × Nat)}
  {wi : Nat} {win : List K} {windows : List (List K)} {m : Nat}

theorem windowParams_eq :
    windowParams veclen stream durs mask bd wi win m = filterBy (wpAdj veclen stream durs bd wi win m) mask := rfl

/-- `windowParams` reads the stream through one Gaussian per state … -/
theorem windowParams_congr (stream' : List (StateParam K))
    (hs : stream'.map (fun s => withIvar (s.params.getD (veclen * wi + m) ⟨0, 0⟩)) =
      stream.map (fun s => withIvar (s.params.getD (veclen * wi + m) ⟨0, 0⟩))) :
    windowParams veclen stream' durs mask bd wi win m = windowParams veclen stream durs mask bd wi win m := by
  rw [windowParams_eq, windowParams_eq, wpAdj, wpAdj, hs]

/-- … and a map of their means passes through it -/
theorem windowParams_map_mean (stream' : List (StateParam K)) (f : K → K)
    (hs : stream'.map (fun s => withIvar (s.params.getD (veclen * wi + m) ⟨0, 0⟩)) =
      (stream.map (fun s => withIvar (s.params.getD (veclen * wi + m) ⟨0, 0⟩))).map
        (fun mv => (⟨f mv.mean, mv.vari⟩ : MeanVari K))) :
    windowParams veclen stream' durs mask bd wi win m =
      (windowParams veclen stream durs mask bd wi win m).map (fun mv => (⟨f mv.mean, mv.vari⟩ : MeanVari K)) := by
  rw [windowParams_eq, windowParams_eq, wpAdj, wpAdj, hs, expand_map, List.zip_map_left, List.map_map, ← filterBy_map, List.map_map]
  refine congrArg (filterBy · mask) (List.map_congr_left ?_)
  rintro ⟨mv, l, r⟩ _
  simp only [Function.comp, Prod.map, id]
  split_ifs <;> rfl

/-- the precision of every entry of `windowParams` is that of the `with_ivar` Gaussian of some state, or zero
    (dynamic windows only) -/
theorem mem_windowParams {mv : MeanVari K} (h : mv ∈ windowParams veclen stream durs mask bd wi win m) :
    ∃ st ∈ stream, mv.vari = (withIvar (st.params.getD (veclen * wi + m) ⟨0, 0⟩)).vari ∨ (mv.vari = 0 ∧ wi ≠ 0) := by
  rw [windowParams_eq] at h
  have h2 := mem_filterBy _ _ _ h
  unfold wpAdj at h2
  simp only [List.mem_map] at h2
  obtain ⟨⟨p, l, r⟩, hz, rfl⟩ := h2
  have hp := mem_expand _ _ _ (List.of_mem_zip hz).1
  simp only [List.mem_map] at hp
  obtain ⟨st, hst, rfl⟩ := hp
  refine ⟨st, hst, ?_⟩
  simp only
  split_ifs with hc
  · exact Or.inr ⟨rfl, hc.2⟩
  · exact Or.inl rfl

theorem createObs_getElem? (i : Nat) :
    (createObs veclen stream durs mask windows m)[i]? =
      windows[i]?.map fun win => windowParams veclen stream durs mask (boundaryDistances mask) i win m := by
  have hl : ((List.range windows.length).zip windows).length = windows.length := by
    rw [List.length_zip, List.length_range, Nat.min_self]
  rw [createObs, List.getElem?_map]
  rcases Nat.lt_or_ge i windows.length with hi | hi
  · rw [List.getElem?_eq_getElem (hl.symm ▸ hi), List.getElem_zip, List.getElem_range, List.getElem?_eq_getElem hi]
    rfl
  · rw [List.getElem?_eq_none (hl.symm ▸ hi), List.getElem?_eq_none hi]
    rfl

theorem mem_zip_createObs {wo : List K × List (MeanVari K)}
    (h : wo ∈ windows.zip (createObs veclen stream durs mask windows m)) :
    ∃ i, i < windows.length ∧ windows[i]? = some wo.1 ∧
      wo.2 = windowParams veclen stream durs mask (boundaryDistances mask) i wo.1 m := by
  obtain ⟨i, hi⟩ := List.mem_iff_getElem?.1 h
  rw [List.getElem?_zip_eq_some, createObs_getElem?] at hi
  obtain ⟨h1, h2⟩ := hi
  rw [h1] at h2
  exact ⟨i, (List.getElem?_eq_some_iff.1 h1).1, h1, (Option.some.inj h2).symm⟩

theorem mem_createObs {o : List (MeanVari K)} (h : o ∈ createObs veclen stream durs mask windows m) :
    ∃ wi win, o = windowParams veclen stream durs mask (boundaryDistances mask) wi win m := by
  unfold createObs at h
  simp only [List.mem_map] at h
  obtain ⟨⟨wi, win⟩, _, rfl⟩ := h
  exact ⟨wi, win, rfl⟩

theorem createObs_cons (w : List K) (ws : List (List K)) :
    createObs veclen stream durs mask (w :: ws) m =
      windowParams veclen stream durs mask (boundaryDistances mask) 0 w m ::
        ((List.range ws.length).zip ws).map fun x =>
          windowParams veclen stream durs mask (boundaryDistances mask) (x.1 + 1) x.2 m := by
  simp only [createObs, List.length_cons, List.range_succ_eq_map, List.zip_cons_cons, List.map_cons,
    List.zip_map_left, List.map_map, List.cons.injEq, true_and]
  rfl

theorem createObs_headD (hstatic : windows.head? = some [1]) :
    (createObs veclen stream durs mask windows m).headD [] =
      windowParams veclen stream durs mask (boundaryDistances mask) 0 [1] m := by
  cases windows with
  | nil => simp at hstatic
  | cons w ws =>
    obtain rfl : w = [1] := by simpa using hstatic
    rw [createObs_cons, List.headD_cons]

end

section
variable (veclen : Nat) (stream : List (StateParam K)) (durs : List Nat) (mask : List Bool) (bd : List (Nat × Nat))
  (wi : Nat) (win : List K) (windows : List (List K)) (m : Nat)

theorem wpAdj_length (hd : durs.length ≤ stream.length) (hb : bd.length = durs.sum) :
    (wpAdj veclen stream durs bd wi win m).length = durs.sum := by
  unfold wpAdj
  rw [List.length_map, List.length_zip, expand_length _ _ (by simpa using hd), hb]
  simp

theorem length_createObs : (createObs veclen stream durs mask windows m).length = windows.length := by
  simp [createObs]

theorem length_of_mem_createObs (thr : K) (hd : durs.length ≤ stream.length) :
    ∀ o ∈ createObs veclen stream durs (maskCreate stream thr durs) windows m,
      o.length = ((maskCreate stream thr durs).filter id).length := by
  intro o ho
  obtain ⟨wi, win, rfl⟩ := mem_createObs ho
  have hml := maskCreate_length stream thr durs hd
  rw [windowParams_eq]
  exact filterBy_length _ _ (by rw [wpAdj_length _ _ _ _ _ _ _ hd (by rw [boundaryDistances_length, hml]), hml])

end

end

section
variable {K : Type} [Field K]

theorem solve_length (m : MlpgMatrix K) (n : Nat) (h1 : m.wuw.length = n) (h2 : m.wum.length = n) :
    m.solve.length = n := by
  unfold MlpgMatrix.solve
  simp only [backwardSub_length, forwardSub_length, ldlRows_length, h1, h2]
  simp

theorem gvNextStep_length_eq (m : MlpgMatrix K) (par : List K) (sw : List Bool) (g : List K)
    (step mean vari gm gv : K) :
    (gvNextStep m par sw g step mean vari gm gv).length =
      min (min par.length sw.length) (min g.length (min m.wum.length m.wuw.length)) := by
  unfold gvNextStep
  simp only [List.length_map, List.length_zip]

theorem gvNextStep_length {m : MlpgMatrix K} {par : List K} {sw : List Bool} {g : List K}
    {step mean vari gm gv : K} {n : Nat} (h1 : m.wuw.length = n) (h2 : m.wum.length = n)
    (hp : par.length = n) (hs : sw.length = n) (hg : g.length = n) :
    (gvNextStep m par sw g step mean vari gm gv).length = n := by
  rw [gvNextStep_length_eq, h1, h2, hp, hs, hg, Nat.min_self, Nat.min_self, Nat.min_self]

variable [LinearOrder K]

theorem calcWuwWum_cons (windows : List (List K)) (o0 : List (MeanVari K)) (obs : List (List (MeanVari K))) :
    ∃ mtx, calcWuwWum windows (o0 :: obs) = some mtx ∧ mtx.length = o0.length ∧
      mtx.wuw.length = o0.length ∧ mtx.wum.length = o0.length := by
  refine ⟨_, rfl, ?_, ?_, ?_⟩ <;> simp

/-- whatever `next_step` establishes about the length of the trajectory, the GV iterations keep -/
theorem gvLoop_length_inv (P : Nat → Prop) {m : MlpgMatrix K} {sw : List Bool} {gm gv : K} {gvLen : Nat}
    {half sd si : K}
    (hstep : ∀ par step mean vari, P par.length →
      P (gvNextStep m par sw (hmmobjDerivative m par).2 step mean vari gm gv).length)
    {fuel : Nat} : ∀ {i : Nat} {par : List K} {step prev : K}, P par.length →
      P (gvParmgen.loop m sw gm gv gvLen half sd si i fuel par step prev).length := by
  induction fuel with
  | zero => intro i par step prev hp; rwa [gvParmgen.loop]
  | succ fuel ih =>
    intro i par step prev hp
    rw [gvParmgen.loop]
    exact ih (hstep _ _ _ _ hp)

variable [Transc K]

/-- no eligible frame: `parmgen` returns its input -/
theorem gvParmgen_no_eligible (m : MlpgMatrix K) (par : List K) (sw : List Bool) (gm gv : K)
    (h : (sw.filter id).length = 0) : gvParmgen m par sw gm gv = par := by
  unfold gvParmgen
  simp [h]

/-- otherwise: `conv_gv`, then five passes of the loop, starting at `i = 1` with step `1/10` -/
theorem gvParmgen_of_eligible (m : MlpgMatrix K) (par : List K) (sw : List Bool) (gm gv : K)
    (h : (sw.filter id).length ≠ 0) :
    gvParmgen m par sw gm gv =
      gvParmgen.loop m sw gm gv (sw.filter id).length (1 / ((2 : Nat) : K)) (1 / ((2 : Nat) : K))
        (((12 : Nat) : K) / ((10 : Nat) : K)) 1 5 (convGv par sw (sw.filter id).length gm) (1 / ((10 : Nat) : K)) 0 := by
  unfold gvParmgen
  exact if_neg h

theorem gvParmgen_length (m : MlpgMatrix K) (par : List K) (sw : List Bool) (gm gv : K)
    (n : Nat) (h1 : m.wuw.length = n) (h2 : m.wum.length = n) (h3 : m.length = n) (hp : par.length = n)
    (hs : sw.length = n) : (gvParmgen m par sw gm gv).length = n := by
  by_cases h : (sw.filter id).length = 0
  · rw [gvParmgen_no_eligible m par sw gm gv h, hp]
  · rw [gvParmgen_of_eligible m par sw gm gv h]
    exact gvLoop_length_inv (· = n) (fun par _ _ _ hp =>
      gvNextStep_length h1 h2 hp hs (hmmobjDerivative_length m par n h1 h3 hp))
      ((convGv_length_eq par sw _ gm (hp.trans hs.symm)).trans hp)

theorem MlpgMatrix.par_none (m : MlpgMatrix K) (vi : Nat) (gw : K) (durs : List Nat) (mask : List Bool) :
    m.par none vi gw durs mask = m.solve := rfl

theorem MlpgMatrix.par_some (m : MlpgMatrix K) (gvParam : List (MeanVari K)) (gvSwitch : List Bool) (vi : Nat)
    (gw : K) (durs : List Nat) (mask : List Bool) :
    m.par (some (gvParam, gvSwitch)) vi gw durs mask =
      gvParmgen m m.solve (filterBy (expand gvSwitch durs) mask)
        ((gvParam.getD vi ⟨0, 0⟩).mean * gw) (gvParam.getD vi ⟨0, 0⟩).vari := rfl

theorem par_length (mtx : MlpgMatrix K) (gv : Option (List (MeanVari K) × List Bool)) (m : Nat) (gw : K)
    (durs : List Nat) (mask : List Bool) (n : Nat) (h1 : mtx.wuw.length = n) (h2 : mtx.wum.length = n)
    (h3 : mtx.length = n)
    (hsw : ∀ g sw, gv = some (g, sw) → (filterBy (expand sw durs) mask).length = n) :
    (mtx.par gv m gw durs mask).length = n := by
  rcases gv with _ | ⟨g, sw⟩
  · exact solve_length mtx n h1 h2
  · rw [MlpgMatrix.par_some]
    exact gvParmgen_length _ _ _ _ _ n h1 h2 h3 (solve_length mtx n h1 h2) (hsw g sw rfl)

end

section
variable {K : Type} [Field K] [LinearOrder K] [Transc K] [Consts K] [MlpgConsts K]

/-- one column (vector index `m`) of `mlpgCreate` -/
def mlpgCol (gw thr : K) (s : StreamIn K) (durs : List Nat) (m : Nat) : Option (List K) :=
  match calcWuwWum s.windows
      (createObs s.vectorLength s.stream durs (maskCreate s.stream thr durs) s.windows m) with
  | none => none
  | some mtx => maskFill (maskCreate s.stream thr durs)
      (mtx.par s.gv m gw durs (maskCreate s.stream thr durs)) Consts.nodata

omit [LinearOrder K] [Transc K] [Consts K] [MlpgConsts K] in
/-- column `m` of the frame-major transpose -/
theorem transpose_col (cols : List (List K)) (n m : Nat) (hm : m < cols.length)
    (hn : (cols.getD m []).length = n) :
    ((List.range n).map fun t => cols.map fun c => c.getD t 0).map (fun r => r.getD m 0) = cols.getD m [] := by
  have e : cols.getD m [] = cols[m] := List.getD_eq_getElem _ _ hm
  rw [e] at hn ⊢
  apply List.ext_getElem
  · simp [hn]
  · intro i h1 h2
    simp only [List.getElem_map, List.getElem_range]
    rw [List.getD_eq_getElem _ _ (by simpa using hm), List.getElem_map, List.getD_eq_getElem _ _ h2]

section
variable (gw thr : K) (s : StreamIn K) (durs : List Nat)

theorem mlpgCreate_eq :
    mlpgCreate gw thr s durs =
      if s.vectorLength > 0 ∧ s.windows.length > 0 ∧ ((s.stream.zip durs).map (·.1)).any
          (fun st => decide (st.params.length < s.vectorLength * s.windows.length)) then
        .panic "mlpg_adjust/mod.rs:curr_stream[m]"
      else if s.vectorLength > 0 ∧ s.windows.length = 0 then .panic "mlpg.rs:parameters[0]"
      else if ((List.range s.vectorLength).map (mlpgCol gw thr s durs)).any Option.isNone then
        .panic "mask.rs:fill expect"
      else .ok ((List.range (maskCreate s.stream thr durs).length).map fun t =>
        (((List.range s.vectorLength).map (mlpgCol gw thr s durs)).map fun c => c.getD []).map
          fun c => c.getD t 0) := rfl

theorem mlpgCol_of_calc (m : Nat) {mtx : MlpgMatrix K}
    (hm : calcWuwWum s.windows
      (createObs s.vectorLength s.stream durs (maskCreate s.stream thr durs) s.windows m) = some mtx) :
    mlpgCol gw thr s durs m = maskFill (maskCreate s.stream thr durs)
      (mtx.par s.gv m gw durs (maskCreate s.stream thr durs)) Consts.nodata := by
  rw [mlpgCol, hm]

theorem mlpgCol_eq_some {m : Nat} {r : List K} (h : mlpgCol gw thr s durs m = some r) :
    ∃ mtx, calcWuwWum s.windows
        (createObs s.vectorLength s.stream durs (maskCreate s.stream thr durs) s.windows m) = some mtx ∧
      maskFill (maskCreate s.stream thr durs) (mtx.par s.gv m gw durs (maskCreate s.stream thr durs)) Consts.nodata =
        some r := by
  unfold mlpgCol at h
  split at h
  next => cases h
  next mtx hm => exact ⟨mtx, hm, h⟩

theorem mlpgCol_some (m : Nat) (hw : 1 ≤ s.windows.length)
    (hd : durs.length ≤ s.stream.length)
    (hgv : ∀ g sw, s.gv = some (g, sw) → durs.length ≤ sw.length) :
    ∃ r, mlpgCol gw thr s durs m = some r ∧ r.length = (maskCreate s.stream thr durs).length := by
  have hall := length_of_mem_createObs s.vectorLength s.stream durs s.windows m thr hd
  have hne := length_createObs s.vectorLength s.stream durs (maskCreate s.stream thr durs) s.windows m
  -- there is a window, hence a first observation sequence, hence a matrix with one row per voiced frame
  cases hobs : createObs s.vectorLength s.stream durs (maskCreate s.stream thr durs) s.windows m with
  | nil => rw [hobs, List.length_nil] at hne; omega
  | cons o0 rest =>
    obtain ⟨mtx, hm, h3, h1, h2⟩ := calcWuwWum_cons s.windows o0 rest
    have ho := hall o0 (hobs ▸ List.mem_cons_self)
    have hpar := par_length mtx s.gv m gw durs (maskCreate s.stream thr durs) _ (h1.trans ho) (h2.trans ho)
      (h3.trans ho) fun g sw hg => gvSwitch_filter_length s.stream thr durs sw hd (hgv g sw hg)
    obtain ⟨r, hr, hlen, -⟩ := maskFill_spec _ _ Consts.nodata hpar
    exact ⟨r, (mlpgCol_of_calc gw thr s durs m (hobs ▸ hm)).trans hr, hlen⟩

theorem mlpgCol_nodata (m : Nat) (r : List K)
    (h : mlpgCol gw thr s durs m = some r) (f : Nat)
    (hf : (maskCreate s.stream thr durs)[f]? = some false) : r[f]? = some Consts.nodata := by
  obtain ⟨mtx, -, h⟩ := mlpgCol_eq_some gw thr s durs h
  exact (maskFill_eq_some h).2.2.2 f hf

/-- `mlpgCreate` returns a trajectory iff neither index panic fires and every column is filled; the
    trajectory is then the frame-major transpose of the columns. -/
theorem mlpgCreate_eq_ok_iff (rows : List (List K)) :
    mlpgCreate gw thr s durs = .ok rows ↔
      ¬ (s.vectorLength > 0 ∧ s.windows.length > 0 ∧ ((s.stream.zip durs).map (·.1)).any
          (fun st => decide (st.params.length < s.vectorLength * s.windows.length))) ∧
      ¬ (s.vectorLength > 0 ∧ s.windows.length = 0) ∧
      (∀ m, m < s.vectorLength → ∃ r, mlpgCol gw thr s durs m = some r) ∧
      rows = (List.range (maskCreate s.stream thr durs).length).map fun t =>
        (((List.range s.vectorLength).map (mlpgCol gw thr s durs)).map fun c => c.getD []).map
          fun c => c.getD t 0 := by
  have hcols : ((List.range s.vectorLength).map (mlpgCol gw thr s durs)).any Option.isNone = true ↔
      ¬ ∀ m, m < s.vectorLength → ∃ r, mlpgCol gw thr s durs m = some r := by
    simp only [List.any_map, List.any_eq_true, List.mem_range, Function.comp_apply, Option.isNone_iff_eq_none,
      ← Option.isSome_iff_exists, Option.isSome_iff_ne_none, not_forall, not_not, exists_prop]
  rw [mlpgCreate_eq]
  split_ifs with h1 h2 h3
  · exact ⟨nofun, fun h => absurd h1 h.1⟩
  · exact ⟨nofun, fun h => absurd h2 h.2.1⟩
  · exact ⟨nofun, fun h => absurd h.2.2.1 (hcols.1 h3)⟩
  · exact ⟨fun h => ⟨h1, h2, not_not.1 (mt hcols.2 h3), (Outcome.ok.inj h).symm⟩, fun h => by rw [h.2.2.2]⟩

theorem mlpgCreate_ok_length (rows : List (List K)) (h : mlpgCreate gw thr s durs = .ok rows) :
    rows.length = (maskCreate s.stream thr durs).length ∧ ∀ r ∈ rows, r.length = s.vectorLength := by
  obtain ⟨-, -, -, rfl⟩ := (mlpgCreate_eq_ok_iff gw thr s durs rows).1 h
  refine ⟨by rw [List.length_map, List.length_range], fun r hr => ?_⟩
  obtain ⟨t, _, rfl⟩ := List.mem_map.1 hr
  rw [List.length_map, List.length_map, List.length_map, List.length_range]

theorem mlpgCreate_shape (hwf : StreamWF s) (hd : durs.length ≤ s.stream.length)
    (hgv : ∀ g sw, s.gv = some (g, sw) → durs.length ≤ sw.length) :
    ∃ rows, mlpgCreate gw thr s durs = .ok rows ∧ rows.length = durs.sum ∧
      ∀ r ∈ rows, r.length = s.vectorLength := by
  obtain ⟨hw, hst⟩ := hwf
  have hok := (mlpgCreate_eq_ok_iff gw thr s durs _).2 ⟨?_, by omega,
    fun m _ => (mlpgCol_some gw thr s durs m hw hd hgv).imp fun _ h => h.1, rfl⟩
  · obtain ⟨h1, h2⟩ := mlpgCreate_ok_length gw thr s durs _ hok
    exact ⟨_, hok, h1.trans (maskCreate_length _ _ _ hd), h2⟩
  · rintro ⟨_, _, h⟩
    simp only [List.any_eq_true, List.mem_map, decide_eq_true_eq] at h
    obtain ⟨st, ⟨⟨a, b⟩, hab, rfl⟩, hlt⟩ := h
    exact absurd (hst a (List.of_mem_zip hab).1) (Nat.not_le.2 hlt)

/-- column `m` of an `.ok` trajectory is what `fill` returned for that column -/
theorem mlpgCreate_col (traj : List (List K)) (h : mlpgCreate gw thr s durs = .ok traj) (m : Nat)
    (hm : m < s.vectorLength) (r : List K)
    (hr : mlpgCol gw thr s durs m = some r) (hrlen : r.length = (maskCreate s.stream thr durs).length) :
    (traj.map fun row => row.getD m 0) = r := by
  have hcl : m < (((List.range s.vectorLength).map (mlpgCol gw thr s durs)).map fun c => c.getD []).length := by
    simpa using hm
  have hget : (((List.range s.vectorLength).map (mlpgCol gw thr s durs)).map fun c => c.getD []).getD m [] = r := by
    rw [List.getD_eq_getElem _ _ hcl]
    simp only [List.getElem_map, List.getElem_range, hr, Option.getD_some]
  rw [((mlpgCreate_eq_ok_iff gw thr s durs traj).1 h).2.2.2, transpose_col _ _ m hcl (by rw [hget, hrlen]), hget]

end

theorem mlpgCreate_no_gv (gw gw' thr : K) (s : StreamIn K) (durs : List Nat) (h : s.gv = none) :
    mlpgCreate gw thr s durs = mlpgCreate gw' thr s durs := by
  simp only [mlpgCreate, MlpgMatrix.par, h]

end

end Jb
