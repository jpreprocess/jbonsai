/-
  C09: `fillTimes` (`Labels::new`) label by label from the original neighbours, and `createWithAlignment`
  group by group: every group of labels closed by a known end gets the frame-length-constrained estimate
  for its own states.
-/
import Jb.Proofs.Duration

namespace Jb

section
variable {K : Type} [Field K] [LinearOrder K]

/-- What `Labels::new` must produce for label `i`, stated non-sequentially from the *original* list:
    an unknown (negative) end inherits the next label's original start when that is known;
    an unknown start inherits the previous label's original end when that is known;
    anything still negative is normalised to −1. -/
def fillSpecAt (ts : List (K × K)) (i : Nat) : K × K :=
  let t := ts.getD i (0, 0)
  let s :=
    if t.1 < 0 then
      (if 0 < i ∧ 0 ≤ (ts.getD (i - 1) (0, 0)).2 then (ts.getD (i - 1) (0, 0)).2 else -1)
    else t.1
  let e :=
    if t.2 < 0 then
      (if i + 1 < ts.length ∧ 0 ≤ (ts.getD (i + 1) (0, 0)).1 then (ts.getD (i + 1) (0, 0)).1 else -1)
    else t.2
  (s, e)

theorem fillTimesAux_nil (cur : K × K) : fillTimesAux cur [] = [normTime cur] := by
  rw [fillTimesAux]

theorem fillTimesAux_cons (cur nxt : K × K) (rest : List (K × K)) :
    fillTimesAux cur (nxt :: rest) =
      normTime (if cur.2 < 0 ∧ 0 ≤ nxt.1 then (cur.1, nxt.1) else cur) ::
        fillTimesAux (if 0 ≤ cur.2 ∧ nxt.1 < 0 then (cur.2, nxt.2) else nxt) rest := by
  rw [fillTimesAux]
  split_ifs with h1 h2 h2
  · exact absurd h1.1 (not_lt.mpr h2.1)
  · rfl
  · rfl
  · rfl

theorem fillTimesAux_length (rest : List (K × K)) (cur : K × K) :
    (fillTimesAux cur rest).length = rest.length + 1 := by
  induction rest generalizing cur with
  | nil => rw [fillTimesAux_nil]; rfl
  | cons nxt rest ih => rw [fillTimesAux_cons, List.length_cons, ih, List.length_cons]

theorem fillTimes_length (ts : List (K × K)) : (fillTimes ts).length = ts.length := by
  cases ts with
  | nil => rfl
  | cons t rest => rw [fillTimes, fillTimesAux_length, List.length_cons]

/-! The loop of `fillTimesAux` carries the current label with its start already filled from the previous
    label's original end: `startFilled pe t`. One step emits `fillOne pe t ns`, the label `t` as a function of
    its original neighbours (`fillTimesAux_startFilled`). `specFrom pe ts i` is `fillOne` of the original
    neighbours of label `i`, with `pe` standing in for the missing neighbour of label 0, and `fillSpecAt` is
    `specFrom (-1)`. -/

namespace FillTimes

/-- Label `t` of `Labels::new` from the original data: `pe` is the previous label's end and `ns` the next
    label's start, −1 where there is no such label. -/
def fillOne (pe : K) (t : K × K) (ns : K) : K × K :=
  (if t.1 < 0 then (if 0 ≤ pe then pe else -1) else t.1, if t.2 < 0 then (if 0 ≤ ns then ns else -1) else t.2)

/-- "`x`, else `y`, else −1": the loop fills and then normalises, `fillSpecAt` says it in one go. Both
    components of a label are instances. -/
theorem norm_fill (x y : K) :
    (if (if x < 0 ∧ 0 ≤ y then y else x) < 0 then (-1 : K) else if x < 0 ∧ 0 ≤ y then y else x) =
      if x < 0 then (if 0 ≤ y then y else -1) else x := by
  by_cases hx : x < 0 <;> by_cases hy : 0 ≤ y <;>
    simp only [hx, hy, and_self, and_false, false_and, if_true, if_false, not_lt.mpr]

def startFilled (pe : K) (t : K × K) : K × K := (if t.1 < 0 ∧ 0 ≤ pe then pe else t.1, t.2)

theorem normTime_startFilled (pe : K) (t : K × K) (ns : K) :
    normTime (if t.2 < 0 ∧ 0 ≤ ns then ((startFilled pe t).1, ns) else startFilled pe t) = fillOne pe t ns :=
  -- pull the `if` into the second component of the pair (`startFilled pe t` is a pair by definition);
  -- `normTime` then normalises both components, and each is an instance of `norm_fill`
  (congrArg normTime (apply_ite (Prod.mk (startFilled pe t).1) _ ns t.2).symm).trans
    (congrArg₂ Prod.mk (norm_fill t.1 pe) (norm_fill t.2 ns))

theorem fillTimesAux_startFilled (pe : K) (t nxt : K × K) (rest : List (K × K)) :
    fillTimesAux (startFilled pe t) (nxt :: rest) =
      fillOne pe t nxt.1 :: fillTimesAux (startFilled t.2 nxt) rest := by
  refine (fillTimesAux_cons _ _ _).trans
    (congrArg₂ List.cons (normTime_startFilled pe t nxt.1) (congrArg (fillTimesAux · rest) ?_))
  by_cases h : 0 ≤ t.2 ∧ nxt.1 < 0
  · exact (if_pos h).trans (Prod.ext (if_pos h.symm).symm rfl)
  · exact (if_neg h).trans (Prod.ext (if_neg fun h' => h h'.symm).symm rfl)

def specFrom (pe : K) (ts : List (K × K)) (i : Nat) : K × K :=
  fillOne (if i = 0 then pe else (ts.getD (i - 1) (0, 0)).2) (ts.getD i (0, 0))
    (if i + 1 < ts.length then (ts.getD (i + 1) (0, 0)).1 else -1)

theorem specFrom_cons_succ (pe : K) (t : K × K) (rest : List (K × K)) (i : Nat) :
    specFrom pe (t :: rest) (i + 1) = specFrom t.2 rest i := by
  unfold specFrom
  simp only [List.getD_cons_succ, List.length_cons, Nat.add_lt_add_iff_right, Nat.succ_ne_zero, if_false,
    Nat.add_sub_cancel]
  cases i with
  | zero => rw [List.getD_cons_zero, if_pos rfl]
  | succ j => rw [List.getD_cons_succ, if_neg (Nat.succ_ne_zero j), Nat.add_sub_cancel]

end FillTimes

variable [IsStrictOrderedRing K]

namespace FillTimes

theorem neg_one_unknown : ¬ ((0 : K) ≤ -1) := not_le.mpr neg_one_lt_zero

theorem fillSpecAt_eq (ts : List (K × K)) (i : Nat) : fillSpecAt ts i = specFrom (-1) ts i := by
  unfold fillSpecAt specFrom fillOne
  refine Prod.ext ?_ ?_
  · rcases Nat.eq_zero_or_pos i with rfl | hi
    · simp only [lt_irrefl, false_and, if_false, if_true, neg_one_unknown (K := K)]
    · simp only [hi, true_and, Nat.ne_of_gt hi, if_false]
  · by_cases hl : i + 1 < ts.length
    · simp only [hl, true_and, if_true]
    · simp only [hl, false_and, if_false, neg_one_unknown (K := K)]

theorem fillTimesAux_getD (rest : List (K × K)) (pe : K) (cur : K × K) (i : Nat) (hi : i ≤ rest.length) :
    (fillTimesAux (startFilled pe cur) rest).getD i (0, 0) = specFrom pe (cur :: rest) i := by
  induction rest generalizing pe cur i with
  | nil =>
    obtain rfl : i = 0 := Nat.le_zero.mp hi
    have h := normTime_startFilled pe cur (-1)
    rw [if_neg fun h => neg_one_unknown h.2] at h
    rw [fillTimesAux_nil, List.getD_cons_zero, h]
    rfl
  | cons nxt rest ih =>
    rw [fillTimesAux_startFilled]
    cases i with
    | zero =>
      rw [List.getD_cons_zero, specFrom, if_pos rfl, List.getD_cons_zero,
        if_pos (show 0 + 1 < (cur :: nxt :: rest).length from Nat.succ_lt_succ (Nat.succ_pos _))]
      rfl
    | succ j => rw [List.getD_cons_succ, specFrom_cons_succ, ih cur.2 nxt j (Nat.le_of_succ_le_succ hi)]

end FillTimes

open FillTimes in
theorem fillTimes_spec (ts : List (K × K)) (i : Nat) (hi : i < ts.length) :
    (fillTimes ts).getD i (0, 0) = fillSpecAt ts i := by
  cases ts with
  | nil => exact absurd hi (Nat.not_lt_zero i)
  | cons t rest =>
    have hst : startFilled (-1) t = t :=
      Prod.ext (if_neg fun h => neg_one_unknown h.2) rfl
    rw [fillSpecAt_eq, ← fillTimesAux_getD rest (-1) t i (Nat.le_of_lt_succ hi), hst, fillTimes]

end

/-! ### `create_with_alignment` -/

section
variable {K : Type} [Field K] [LinearOrder K]

/-- Index (in labels) of the first label of the group closed by label `i`: one past the last label
    before `i` whose end is known. -/
def groupStart (times : List (K × K)) : Nat → Nat
  | 0 => 0
  | i + 1 => if 0 ≤ (times.getD i (0, 0)).2 then i + 1 else groupStart times i

theorem groupStart_le (times : List (K × K)) : ∀ i, groupStart times i ≤ i
  | 0 => le_rfl
  | i + 1 => by
    rw [groupStart]
    split_ifs
    · exact le_rfl
    · exact Nat.le_succ_of_le (groupStart_le times i)

variable [IsStrictOrderedRing K] [FloorRing K]

section
variable {b : Bool} {ps : List (MeanVari K)} {nstate fc ns st : Nat} {acc : List Nat} {s e : K}
  {rest : List (K × K)}

theorem alignLoop_nil : alignLoop b ps nstate ([] : List (K × K)) fc ns st acc = .ok acc := by
  rw [alignLoop]

theorem alignLoop_known {cur : List Nat} (he : 0 ≤ e) (h1 : st + nstate ≤ ps.length)
    (h2 : ns ≤ st + nstate)
    (hc : estimateWithFrameLength ((ps.drop ns).take (st + nstate - ns)) (e - (fc : K)) = .ok cur) :
    alignLoop b ps nstate ((s, e) :: rest) fc ns st acc =
      alignLoop b ps nstate rest (fc + cur.sum) (st + nstate) (st + nstate) (acc ++ cur) := by
  rw [alignLoop]
  simp only [he, h1, h2, and_self, if_true, hc]

theorem alignLoop_unknown_mid (he : ¬ 0 ≤ e) (hr : rest ≠ []) :
    alignLoop b ps nstate ((s, e) :: rest) fc ns st acc =
      alignLoop b ps nstate rest fc ns (st + nstate) acc := by
  rw [alignLoop]
  have : rest.isEmpty = false := by cases rest <;> simp_all
  simp only [he, this, if_false, Bool.false_eq_true]

theorem alignLoop_unknown_last (he : ¬ 0 ≤ e) (h1 : st + nstate ≤ ps.length) (h2 : ns ≤ st + nstate) :
    alignLoop b ps nstate [(s, e)] fc ns st acc =
      .ok (if b then acc ++ estimateDuration ((ps.drop ns).take (st + nstate - ns)) (0 : K)
        else acc) := by
  rw [alignLoop]
  simp only [he, h1, h2, if_false, List.isEmpty_nil, if_true, and_self, alignLoop_nil]

end

/-- The group of states `[lo, hi)` closed by a label with end `e` gets exactly the frame-length-constrained
    estimate for its Gaussians, the target being `e` minus the frames generated before the group. -/
def GroupAt (ps : List (MeanVari K)) (d : List Nat) (e : K) (lo hi : Nat) : Prop :=
  estimateWithFrameLength ((ps.drop lo).take (hi - lo)) (e - ((d.take lo).sum : K)) = .ok ((d.drop lo).take (hi - lo))

/-- The loop on the labels from `k` on (`rest = times.drop k`), `acc` the durations of the groups closed
    so far: it returns one duration ≥ 1 per state, and every group closed from `k` on is as `GroupAt` says.
    The loop's `frame_count` is `acc.sum`, its `next_state` is `groupStart times k * nstate`, its `state` is
    `k * nstate`. The hypothesis `rest = [] → groupStart times k = k` says that at the end of the list the
    last group has been closed (by a known end, or by the fallback for a trailing unknown end): it is what
    makes the durations cover all of `ps` in the `nil` case. -/
theorem alignLoop_spec (ps : List (MeanVari K)) (nstate : Nat) (times : List (K × K))
    (hps : ps.length = times.length * nstate) :
    ∀ (rest : List (K × K)) (k : Nat) (acc : List Nat), times.drop k = rest → k ≤ times.length →
      acc.length = groupStart times k * nstate → (rest = [] → groupStart times k = k) →
      ∃ r, alignLoop true ps nstate rest acc.sum (groupStart times k * nstate) (k * nstate) acc = .ok (acc ++ r) ∧
        (acc ++ r).length = ps.length ∧ (∀ x ∈ r, 1 ≤ x) ∧
        ∀ j, k ≤ j → j < times.length → 0 ≤ (times.getD j (0, 0)).2 →
          GroupAt ps (acc ++ r) (times.getD j (0, 0)).2 (groupStart times j * nstate) ((j + 1) * nstate) := by
  intro rest
  induction rest with
  | nil =>
    intro k acc hk hkl hacc hnil
    have hkt : k = times.length := Nat.le_antisymm hkl (List.drop_eq_nil_iff.mp hk)
    refine ⟨[], by rw [alignLoop_nil, List.append_nil], ?_, nofun,
      fun j hj hjl => absurd hjl (Nat.not_lt.2 (hkt ▸ hj))⟩
    rw [List.append_nil, hacc, hnil rfl, hps, hkt]
  | cons t rest ih =>
    intro k acc hk hkl hacc hnil
    obtain ⟨s, e⟩ := t
    have hklt : k < times.length :=
      Nat.lt_of_not_le fun h => List.cons_ne_nil _ _ (hk ▸ List.drop_eq_nil_iff.mpr h)
    have htk : times.getD k (0, 0) = (s, e) := by
      rw [List.getD_eq_getElem?_getD, ← List.head?_drop, hk]; rfl
    have hk' : times.drop (k + 1) = rest := by rw [← List.tail_drop, hk, List.tail_cons]
    have hg' : groupStart times (k + 1) = if 0 ≤ e then k + 1 else groupStart times k := by
      rw [groupStart, htk]
    have hg := groupStart_le times k
    generalize hg0 : groupStart times k = g0 at hacc hnil hg hg' ⊢
    have hsm : (k + 1) * nstate = k * nstate + nstate := Nat.succ_mul _ _
    have h1 : k * nstate + nstate ≤ ps.length := by
      rw [hps, ← hsm]; exact Nat.mul_le_mul_right _ hklt
    have h2 : g0 * nstate ≤ k * nstate + nstate :=
      (Nat.mul_le_mul_right _ hg).trans (Nat.le_add_right _ _)
    have hglen : ((ps.drop (g0 * nstate)).take (k * nstate + nstate - g0 * nstate)).length =
        k * nstate + nstate - g0 * nstate := by
      rw [List.length_take, List.length_drop]; exact Nat.min_eq_left (Nat.sub_le_sub_right h1 _)
    by_cases he : 0 ≤ e
    · -- known end: the group `[g0 * nstate, (k + 1) * nstate)` is closed here, `cur` is its estimate
      rw [if_pos he] at hg'
      obtain ⟨cur, hcur, hlen, hcpos, -⟩ := estimateWithFrameLength_spec
        ((ps.drop (g0 * nstate)).take (k * nstate + nstate - g0 * nstate)) (e - (acc.sum : K))
      rw [hglen] at hlen
      have hacl : (acc ++ cur).length = (k + 1) * nstate := by
        rw [List.length_append, hacc, hlen, hsm]; exact Nat.add_sub_cancel' h2
      obtain ⟨r', hr', hlen', hpos', hcum'⟩ := ih (k + 1) (acc ++ cur) hk' hklt (hg'.symm ▸ hacl)
        (fun _ => hg')
      rw [hg', List.sum_append, hsm, List.append_assoc] at hr'
      rw [List.append_assoc] at hlen' hcum'
      refine ⟨cur ++ r', ?_, hlen', List.forall_mem_append.2 ⟨hcpos, hpos'⟩, fun j hj hjl hej => ?_⟩
      · rw [alignLoop_known he h1 h2 hcur, hr']
      · rcases Nat.eq_or_lt_of_le hj with rfl | hj
        · unfold GroupAt
          rw [htk, hg0, hsm, List.take_left' hacc, List.drop_left' hacc, List.take_left' hlen]
          exact hcur
        · exact hcum' j hj hjl hej
    · rw [if_neg he] at hg'
      have hek : ¬ 0 ≤ (times.getD k (0, 0)).2 := by rw [htk]; exact he
      by_cases hr : rest = []
      · -- trailing unknown end: the group gets its unscaled estimate and the loop ends
        subst hr
        have hkt : times.length = k + 1 := Nat.le_antisymm (List.drop_eq_nil_iff.mp hk') hklt
        refine ⟨estimateDuration ((ps.drop (g0 * nstate)).take
          (k * nstate + nstate - g0 * nstate)) (0 : K), ?_, ?_, estimateDuration_pos _ _, fun j hj hjl hej => ?_⟩
        · rw [alignLoop_unknown_last he h1 h2]; rfl
        · rw [List.length_append, estimateDuration_length, hglen, hacc, hps, hkt, hsm]; exact Nat.add_sub_cancel' h2
        · obtain rfl : j = k := Nat.le_antisymm (Nat.le_of_lt_succ (hkt ▸ hjl : j < k + 1)) hj
          exact absurd hej hek
      · -- inner unknown end: the group stays open, nothing is emitted
        obtain ⟨r', hr', hlen', hpos', hcum'⟩ := ih (k + 1) acc hk' hklt (hg'.symm ▸ hacc)
          (fun h => absurd h hr)
        rw [hg', hsm] at hr'
        refine ⟨r', ?_, hlen', hpos', fun j hj hjl hej => ?_⟩
        · rw [alignLoop_unknown_mid he hr, hr']
        · rcases Nat.eq_or_lt_of_le hj with rfl | hj
          · exact absurd hej hek
          · exact hcum' j hj hjl hej

/-- `createWithAlignment true` is the repaired tail handling: on consistent sizes no label vanishes, and every
    group closed by a known end gets the estimate for that group alone. -/
theorem createWithAlignment_spec (ps : List (MeanVari K)) (nstate : Nat) (times : List (K × K))
    (hlen : ps.length = times.length * nstate) :
    ∃ d, createWithAlignment true ps nstate times = .ok d ∧ d.length = ps.length ∧
      (∀ x ∈ d, 1 ≤ x) ∧
      ∀ j, j < times.length → 0 ≤ (times.getD j (0, 0)).2 →
        GroupAt ps d (times.getD j (0, 0)).2 (groupStart times j * nstate) ((j + 1) * nstate) := by
  obtain ⟨r, hr, hl, hpos, hcum⟩ := alignLoop_spec ps nstate times hlen times 0 [] rfl (Nat.zero_le _)
    (Nat.zero_mul _).symm (fun _ => rfl)
  simp only [List.sum_nil, groupStart, Nat.zero_mul, List.nil_append] at hr hl hcum
  exact ⟨r, hr, hl, hpos, fun j => hcum j (Nat.zero_le j)⟩

/-- what `GroupAt` says about frame counts: the cumulative law of C09 -/
theorem GroupAt.cumulative {ps : List (MeanVari K)} {d : List Nat} {e : K} {lo hi : Nat}
    (h : GroupAt ps d e lo hi) (hlo : lo < hi) (ht : hi ≤ ps.length) :
    let c := (d.take lo).sum
    (hi - lo < RoundNat.roundMax1 (e - (c : K)) → (d.take hi).sum = c + RoundNat.roundMax1 (e - (c : K))) ∧
    (RoundNat.roundMax1 (e - (c : K)) ≤ hi - lo → ∀ x ∈ (d.drop lo).take (hi - lo), x = 1) := by
  intro c
  obtain ⟨d', hd', -, -, hle, hsum⟩ := estimateWithFrameLength_spec ((ps.drop lo).take (hi - lo)) (e - (c : K))
  have hlen : ((ps.drop lo).take (hi - lo)).length = hi - lo := by
    rw [List.length_take, List.length_drop]; exact Nat.min_eq_left (Nat.sub_le_sub_right ht _)
  rw [h, Outcome.ok.injEq] at hd'
  rw [hlen, ← hd'] at hle hsum
  refine ⟨fun hlt => ?_, fun hle' => ?_⟩
  · rw [← Nat.add_sub_cancel' hlo.le, List.take_add, List.sum_append,
      hsum (List.ne_nil_of_length_pos (hlen.symm ▸ Nat.sub_pos_of_lt hlo)), max_eq_left hlt.le]
  · rw [hle hle']; exact fun x hx => List.eq_of_mem_replicate hx

/-- the statement of `C09.aligned_cumulative`; it stands here because `Jb/Proofs/SynthBridge.lean`, which
    `Jb/Props/C09.lean` imports, uses it -/
theorem align_cumulative (ps : List (MeanVari K)) (nstate : Nat) (times : List (K × K))
    (hn : 0 < nstate) (hlen : ps.length = times.length * nstate) (d : List Nat)
    (hd : createWithAlignment true ps nstate times = .ok d)
    (i : Nat) (hi : i < times.length) (he : 0 ≤ (times.getD i (0, 0)).2) :
    let e := (times.getD i (0, 0)).2
    let g := groupStart times i
    let c := (d.take (g * nstate)).sum
    let m := (i + 1 - g) * nstate
    (m < RoundNat.roundMax1 (e - (c : K)) →
        (d.take ((i + 1) * nstate)).sum = c + RoundNat.roundMax1 (e - (c : K))) ∧
    (RoundNat.roundMax1 (e - (c : K)) ≤ m →
        ∀ x ∈ (d.drop (g * nstate)).take m, x = 1) := by
  obtain ⟨d', h1, -, -, hcum⟩ := createWithAlignment_spec ps nstate times hlen
  rw [hd, Outcome.ok.injEq] at h1
  subst h1
  have := (hcum i hi he).cumulative
    (Nat.mul_lt_mul_of_pos_right (Nat.lt_succ_of_le (groupStart_le times i)) hn)
    (hlen ▸ Nat.mul_le_mul_right _ hi)
  rwa [← Nat.sub_mul] at this

end

end Jb
