/-
  C15, end to end at model level: on the log-F0 stream (vector length 1) `MlpgAdjust::create` after
  `apply_additional_half_tone(h)` returns, on every voiced frame, the trajectory without the shift plus
  `h·ln2/12` — through the maximum-likelihood solution AND the global-variance iteration — as long as no
  state mean reaches the 20 Hz .. 20 kHz clamp; unvoiced frames keep the no-data marker
  (`mlpgCreate_halfTone`). At the level of the pipeline model (`engineParams_halfTone`): setting the additional
  half tone changes nothing but the log-F0 trajectory — durations, spectrum and low-pass trajectories are the same.

  The idea: while unclamped, `applyHalfTone` adds to the static mean of each state and changes nothing else, so the
  voicing mask is the same and the observation sequences are `shiftStatic` of the original ones, where
  `MlpgProblem.par_shiftStatic` (`Jb/Proofs/GvShift.lean`) applies.
-/
import Jb.Proofs.GvShift
import Jb.Proofs.Total

namespace Jb

section
variable {K : Type} [Field K] [LinearOrder K] [Consts K]

/-- no state's shifted static mean leaves the clamp range -/
def Unclamped (stream : List (StateParam K)) (h : K) : Prop :=
  ∀ st ∈ stream, ∀ p rest, st.params = p :: rest →
    (Consts.minLf0 : K) ≤ p.mean + h * Consts.halfTone ∧ p.mean + h * Consts.halfTone ≤ (Consts.maxLf0 : K)

/-- while no mean is clamped the half tone is a plain addition to the static means, `h = 0` included -/
theorem applyHalfTone_of_unclamped (stream : List (StateParam K)) (h : K) (hu : Unclamped stream h) :
    applyHalfTone stream h = stream.map fun s =>
      match s.params with
      | [] => s
      | p :: rest => { s with params := ⟨p.mean + h * Consts.halfTone, p.vari⟩ :: rest } := by
  by_cases hh : h = 0
  · subst hh
    rw [applyHalfTone_zero]
    refine (List.map_id'' (fun st => ?_) stream).symm
    rcases st with ⟨_ | ⟨p, rest⟩, msd⟩
    · rfl
    · simp only [zero_mul, add_zero]
  · rw [applyHalfTone_spec stream h hh]
    refine List.map_congr_left fun st hst => ?_
    rcases st with ⟨_ | ⟨p, rest⟩, msd⟩
    · rfl
    · obtain ⟨h1, h2⟩ := hu _ hst p rest rfl
      simp only [clampS_of_mem h1 h2]

variable [MlpgConsts K]

theorem createObs_halfTone (stream : List (StateParam K)) (durs : List Nat) (mask : List Bool)
    (windows : List (List K)) (h : K) (hu : Unclamped stream h)
    (hne : ∀ st ∈ stream, st.params ≠ []) :
    createObs 1 (applyHalfTone stream h) durs mask windows 0 =
      shiftStatic (createObs 1 stream durs mask windows 0) (h * Consts.halfTone) := by
  -- state by state: Gaussian 0 has its mean moved (`with_ivar` reads the variance only), the others are the same
  have h0 : (applyHalfTone stream h).map (fun s => withIvar (s.params.getD (1 * 0 + 0) ⟨0, 0⟩)) =
      (stream.map (fun s => withIvar (s.params.getD (1 * 0 + 0) ⟨0, 0⟩))).map
        (fun mv => (⟨mv.mean + h * Consts.halfTone, mv.vari⟩ : MeanVari K)) := by
    rw [applyHalfTone_of_unclamped stream h hu, List.map_map, List.map_map]
    refine List.map_congr_left fun st hst => ?_
    rcases st with ⟨_ | ⟨p, rest⟩, msd⟩
    · exact absurd rfl (hne _ hst)
    · rfl
  have hk : ∀ k, (applyHalfTone stream h).map (fun s => withIvar (s.params.getD (1 * (k + 1) + 0) ⟨0, 0⟩)) =
      stream.map (fun s => withIvar (s.params.getD (1 * (k + 1) + 0) ⟨0, 0⟩)) := fun k => by
    rw [applyHalfTone_of_unclamped stream h hu, List.map_map]
    refine List.map_congr_left fun st _ => ?_
    rcases st with ⟨_ | ⟨p, rest⟩, msd⟩
    · rfl
    · simp only [Function.comp, Nat.one_mul, Nat.add_zero, List.getD_cons_succ]
  cases windows with
  | nil => rfl
  | cons w ws =>
    rw [createObs_cons, createObs_cons, shiftStatic, windowParams_map_mean _ (· + h * Consts.halfTone) h0]
    -- not `congr 1`: it first tries to close the goal by unfolding `windowParams`
    exact congrArg (_ :: ·) <| List.map_congr_left fun x _ => windowParams_congr _ (hk x.1)

variable [IsStrictOrderedRing K] [Transc K]

/-- the single column of the log-F0 stream, before and after the half-tone shift -/
theorem mlpgCol_halfTone (gw thr : K) (stream : List (StateParam K)) (gv : Option (List (MeanVari K) × List Bool))
    (windows : List (List K)) (durs : List Nat) (h : K)
    (hwf : StreamWF (⟨1, stream, gv, windows⟩ : StreamIn K)) (hstatic : windows.head? = some [1])
    (hsum : ∀ w ∈ windows.tail, w.sum = 0)
    (hd : durs.length ≤ stream.length)
    (hgv : ∀ g sw, gv = some (g, sw) → durs.length ≤ sw.length)
    (hnonneg : ∀ st ∈ stream, ∀ p ∈ st.params, 0 ≤ (withIvar p).vari)
    (hdflt : 0 ≤ (withIvar (⟨0, 0⟩ : MeanVari K)).vari)
    (hpos : ∀ st ∈ stream, 0 < (withIvar (st.params.getD 0 ⟨0, 0⟩)).vari)
    (hu : Unclamped stream h) :
    ∃ r : List K, r.length = (maskCreate stream thr durs).length ∧
      mlpgCol gw thr (⟨1, stream, gv, windows⟩ : StreamIn K) durs 0 = some r ∧
      mlpgCol gw thr (⟨1, applyHalfTone stream h, gv, windows⟩ : StreamIn K) durs 0 =
        some (List.zipWith (fun b x => if b then x + h * Consts.halfTone else x) (maskCreate stream thr durs) r) := by
  have hne : ∀ st ∈ stream, st.params ≠ [] := fun st hst h0 => by
    have h1 : 1 * windows.length ≤ st.params.length := hwf.2 st hst
    have h2 : 1 ≤ windows.length := hwf.1
    rw [h0, List.length_nil] at h1
    omega
  have P := createObs_problem 1 stream thr durs windows 0 hstatic hd hnonneg hdflt hpos
  have hsw : ∀ g sw, gv = some (g, sw) →
      (filterBy (expand sw durs) (maskCreate stream thr durs)).length =
        ((maskCreate stream thr durs).filter id).length := fun g sw hg =>
    gvSwitch_filter_length stream thr durs sw hd (hgv g sw hg)
  obtain ⟨m, hm⟩ := P.exists_calc
  obtain ⟨m', hm'⟩ := (P.shifted (h * Consts.halfTone)).exists_calc
  have S := (P.calc hm).2
  have hshift := P.par_shiftStatic hsum (h * Consts.halfTone) hm hm' gv 0 gw durs (maskCreate stream thr durs) hsw
  obtain ⟨r, hr, hrlen, -⟩ := maskFill_spec (maskCreate stream thr durs) _ Consts.nodata
    (par_length m gv 0 gw durs _ _ S.wuw_length S.wum_length S.length hsw)
  refine ⟨r, hrlen, ?_, ?_⟩
  · exact (mlpgCol_of_calc gw thr ⟨1, stream, gv, windows⟩ durs 0 hm).trans hr
  · have hm'' : calcWuwWum windows (createObs 1 (applyHalfTone stream h) durs
        (maskCreate (applyHalfTone stream h) thr durs) windows 0) = some m' := by
      rw [applyHalfTone_mask, createObs_halfTone stream durs _ windows h hu hne, hm']
    rw [mlpgCol_of_calc gw thr ⟨1, applyHalfTone stream h, gv, windows⟩ durs 0 hm'']
    simp only [applyHalfTone_mask]
    rw [hshift]
    exact maskFill_map _ _ _ _ _ hr

end

variable {K : Type} [Field K] [LinearOrder K] [IsStrictOrderedRing K] [FloorRing K]
  [Transc K] [Consts K] [MlpgConsts K]

set_option linter.unusedSectionVars false in
set_option linter.unusedVariables false in
/-- **C15 through MLPG and GV.** `hh` is not used: `applyHalfTone_of_unclamped` covers `h = 0`. -/
theorem mlpgCreate_halfTone (gw thr : K) (s : StreamIn K) (durs : List Nat) (h : K) (hh : h ≠ 0)
    (hv : s.vectorLength = 1) (hwf : StreamWF s) (hstatic : s.windows.head? = some [1])
    (hsum : ∀ w ∈ s.windows.tail, w.sum = 0)
    (hd : durs.length ≤ s.stream.length)
    (hgv : ∀ g sw, s.gv = some (g, sw) → durs.length ≤ sw.length)
    (hnonneg : ∀ st ∈ s.stream, ∀ p ∈ st.params, 0 ≤ (withIvar p).vari)
    (hdflt : 0 ≤ (withIvar (⟨0, 0⟩ : MeanVari K)).vari)
    (hpos : ∀ st ∈ s.stream, 0 < (withIvar (st.params.getD 0 ⟨0, 0⟩)).vari)
    (hu : Unclamped s.stream h) :
    ∃ traj traj',
      mlpgCreate gw thr s durs = .ok traj ∧
      mlpgCreate gw thr { s with stream := applyHalfTone s.stream h } durs = .ok traj' ∧
      traj'.length = traj.length ∧
      ∀ f, f < traj.length →
        traj'.getD f [] =
          if (maskCreate s.stream thr durs).getD f false then (traj.getD f []).map (· + h * Consts.halfTone)
          else traj.getD f [] := by
  obtain ⟨vl, stream, gv, windows⟩ := s
  simp only at hv hstatic hsum hd hgv hnonneg hpos hu ⊢
  subst hv
  have hwf' : StreamWF ({ vectorLength := 1, stream := applyHalfTone stream h, gv := gv, windows := windows } :
      StreamIn K) := by
    refine ⟨hwf.1, ?_⟩
    intro st hst
    obtain ⟨st', hst', hl⟩ := applyHalfTone_params_length stream h st hst
    simp only at hl ⊢
    rw [hl]
    exact hwf.2 st' hst'
  have hd' : durs.length ≤ (applyHalfTone stream h).length := by rw [applyHalfTone_length]; exact hd
  obtain ⟨traj, htraj, hlen, hrow⟩ := mlpgCreate_shape gw thr _ durs hwf hd hgv
  obtain ⟨traj', htraj', hlen', hrow'⟩ := mlpgCreate_shape gw thr _ durs hwf' hd' hgv
  refine ⟨traj, traj', htraj, htraj', by rw [hlen, hlen'], fun f hf => ?_⟩
  have hf' : f < traj'.length := by rw [hlen', ← hlen]; exact hf
  have hfm : f < (maskCreate stream thr durs).length := by rw [maskCreate_length _ _ _ hd, ← hlen]; exact hf
  obtain ⟨r, hrlen, hcol, hcol'⟩ := mlpgCol_halfTone gw thr stream gv windows durs h hwf hstatic hsum hd hgv hnonneg
    hdflt hpos hu
  have e : (traj.getD f []).getD 0 0 = r.getD f 0 := by
    rw [← getD_map_of_lt (fun row : List K => row.getD 0 0) traj hf 0 [],
      mlpgCreate_col gw thr _ durs traj htraj 0 Nat.one_pos r hcol hrlen]
  have e' : (traj'.getD f []).getD 0 0 =
      if (maskCreate stream thr durs).getD f false then r.getD f 0 + h * Consts.halfTone else r.getD f 0 := by
    rw [← getD_map_of_lt (fun row : List K => row.getD 0 0) traj' hf' 0 [],
      mlpgCreate_col gw thr _ durs traj' htraj' 0 Nat.one_pos _ hcol'
        (by rw [applyHalfTone_mask, List.length_zipWith, hrlen, Nat.min_self]),
      List.getD_eq_getElem _ _ (by rw [List.length_zipWith, hrlen, Nat.min_self]; exact hfm),
      List.getElem_zipWith, List.getD_eq_getElem _ false hfm, List.getD_eq_getElem r 0 (hrlen ▸ hfm)]
  -- rows are singletons
  obtain ⟨a, ha⟩ := List.length_eq_one_iff.mp (hrow _ (List.getElem_mem hf))
  obtain ⟨a', ha'⟩ := List.length_eq_one_iff.mp (hrow' _ (List.getElem_mem hf'))
  rw [List.getD_eq_getElem _ _ hf, ha] at e ⊢
  rw [List.getD_eq_getElem _ _ hf', ha'] at e' ⊢
  rw [show a' = _ from e', ← show a = _ from e]
  split_ifs <;> rfl

/-- **"Additional half tone transposes F0 and nothing else"**, for the parameters `Engine::generator` hands to the
    vocoder. `s1` is the log-F0 stream, `thr` its MSD threshold. -/
theorem engineParams_halfTone (c : Condition K) (h : K) (hh : h ≠ 0) (h0 : c.halfTone = 0) (b : Bool)
    (inp : EngineIn K) (hwf : EngineWF c inp)
    (s1 : StreamIn K) (hs1 : inp.streams[1]? = some s1) (thr : K) (hthr : c.msdThreshold[1]? = some thr)
    (hstatic : s1.windows.head? = some [1]) (hsum : ∀ w ∈ s1.windows.tail, w.sum = 0)
    (hnonneg : ∀ st ∈ s1.stream, ∀ p ∈ st.params, 0 ≤ (withIvar p).vari)
    (hdflt : 0 ≤ (withIvar (⟨0, 0⟩ : MeanVari K)).vari)
    (hpos : ∀ st ∈ s1.stream, 0 < (withIvar (st.params.getD 0 ⟨0, 0⟩)).vari)
    (hu : Unclamped s1.stream h) :
    ∃ p p', engineParams c b inp = .ok p ∧ engineParams { c with halfTone := h } b inp = .ok p' ∧
      p'.durations = p.durations ∧ p'.spectrum = p.spectrum ∧ p'.lpf = p.lpf ∧
      p'.lf0.length = p.lf0.length ∧
      ∀ f, f < p.lf0.length →
        p'.lf0.getD f [] =
          if (maskCreate s1.stream thr p.durations).getD f false then (p.lf0.getD f []).map (· + h * Consts.halfTone)
          else p.lf0.getD f [] := by
  have hwf' : EngineWF { c with halfTone := h } inp :=
    ⟨hwf.nstream, hwf.streams, hwf.wf, hwf.lf0, hwf.lpf, hwf.gvw, hwf.thr, hwf.align⟩
  -- only stream 1 reads the half tone
  have hiso : ∀ j, j ≠ 1 → ∀ durs, engineStream { c with halfTone := h } inp durs j = engineStream c inp durs j :=
    fun j hj durs => engineStream_congr _ c inp durs j rfl rfl fun e => absurd e hj
  obtain ⟨p, p', hp, hp', hdur, hlen, hsame⟩ := engineParams_compare (b := b) (b' := b) hwf hwf'
    (engineDurations_congr _ c b inp rfl rfl)
  refine ⟨p, p', hp, hp', hdur, hsame 0 (by omega) (hiso 0 (by decide)), hsame 2 (by omega) (hiso 2 (by decide)),
    hlen 1, ?_⟩
  obtain ⟨hD, -, hS1, -⟩ := (engineParams_eq_ok_iff ..).1 hp
  obtain ⟨-, -, hS1', -⟩ := (engineParams_eq_ok_iff ..).1 hp'
  obtain ⟨durs, hD', hdl, -⟩ := engineDurations_total c inp hwf b
  obtain rfl : durs = p.durations := Outcome.ok.inj (hD'.symm.trans hD)
  have hgw : c.gvWeight[1]? = some (c.gvWeight[1]'(by have := hwf.gvw; have := hwf.nstream; omega)) :=
    List.getElem?_eq_getElem _
  generalize c.gvWeight[1]'_ = gw at hgw
  obtain ⟨hwf1, hsl, hgv⟩ := hwf.wf s1 (List.mem_of_getElem? hs1)
  obtain ⟨traj, traj', ht, ht', -, hfr⟩ := mlpgCreate_halfTone gw thr s1 p.durations h hh (hwf.lf0 s1 hs1) hwf1
    hstatic hsum (by omega) (fun g sw e => by rw [hdl]; exact hgv g sw e) hnonneg hdflt hpos hu
  rw [engineStream_eq hs1 hgw hthr, Synth.mlpgStates, if_pos rfl, h0, applyHalfTone_zero, ht,
    Outcome.ok.injEq] at hS1
  rw [hdur, engineStream_eq (c := { c with halfTone := h }) hs1 hgw hthr, Synth.mlpgStates, if_pos rfl, ht',
    Outcome.ok.injEq] at hS1'
  subst hS1 hS1'
  exact hfr

end Jb
