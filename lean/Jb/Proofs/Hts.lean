/-
  The voice-file model (`Jb/Model/Htsvoice.lean`, `Jb/Model/HtsParse.lean`) in itself: `glob` accepts exactly what
  `Matches` derives; `from_linear` lays a PDF out as means | variances | voicing weight; `TreeWF` (row ids distinct,
  references point to later rows) and the simulation behind C04 — walking the index table `convert_tree` builds gives
  what walking the file's tree by node id gives (`searchNode_tableOf_eq_evalChild`, `convertTree_refines`); what
  selection (`getParameter`) returns; at the end, the digit-overflow site of the pinned commit as a panic of the unguarded
  model, and the same inputs as errors of the guarded one (C18).
-/
import Jb.Model.HtsParse
import Jb.Proofs.Outcome
import Jb.Proofs.ListAux
import Mathlib.Tactic.Linarith

namespace Jb.Hts

theorem glob_sound (p s : List Char) : glob p s = true → Matches p s := by
  fun_induction glob p s with
  | case1 => intro _; exact .nil
  | case2 => intro h; simp at h
  | case3 p ih => intro h; exact .star_skip (ih h)
  | case4 p c s ih1 ih2 =>
    intro h
    rw [Bool.or_eq_true] at h
    rcases h with h | h
    · exact .star_skip (ih1 h)
    · exact .star_eat (ih2 h)
  | case5 => intro h; simp at h
  | case6 p c s ih => intro h; exact .any1 (ih h)
  | case7 => intro h; simp at h
  | case8 a p c s h1 h2 ih =>
    intro h
    rw [Bool.and_eq_true, beq_iff_eq] at h
    obtain ⟨rfl, h⟩ := h
    exact .lit (by rintro rfl; exact h1 rfl) (by rintro rfl; exact h2 rfl) (ih h)

theorem glob_complete (p s : List Char) (h : Matches p s) : glob p s = true := by
  induction h with
  | nil => rw [glob]
  | @star_skip p s _ ih =>
    cases s with
    | nil => rw [glob]; exact ih
    | cons c s => rw [glob, ih]; rfl
  | @star_eat p c s _ ih => rw [glob, ih, Bool.or_true]
  | @any1 p c s _ ih => rw [glob]; exact ih
  | @lit a p s h1 h2 _ ih =>
    rw [glob.eq_8 _ _ _ _ h1 h2]
    simp [ih]

theorem glob_correct (p s : List Char) : glob p s = true ↔ Matches p s :=
  ⟨glob_sound p s, glob_complete p s⟩

theorem fromLinear_means_length (lin : List UInt32) : (fromLinear lin).means.length = lin.length / 2 := by
  simp only [fromLinear, List.length_take]
  omega

theorem fromLinear_varis_length (lin : List UInt32) : (fromLinear lin).varis.length = lin.length / 2 := by
  simp only [fromLinear, List.length_take, List.length_drop]
  omega

theorem fromLinear_msd_isSome (lin : List UInt32) : (fromLinear lin).msd.isSome = decide (lin.length % 2 = 1) := by
  rw [Bool.eq_iff_iff, decide_eq_true_iff, fromLinear, Option.isSome_iff_ne_none, ne_eq, List.getElem?_eq_none_iff]
  omega

theorem fromLinear_layout (lin : List UInt32) (i : Nat) (hi : i < lin.length / 2) :
    (fromLinear lin).means[i]? = lin[i]? ∧ (fromLinear lin).varis[i]? = lin[i + lin.length / 2]? ∧
    (fromLinear lin).msd = lin[lin.length / 2 * 2]? ∧
    (fromLinear lin).means.length = lin.length / 2 ∧ (fromLinear lin).varis.length = lin.length / 2 := by
  refine ⟨?_, ?_, rfl, fromLinear_means_length lin, fromLinear_varis_length lin⟩ <;> dsimp only [fromLinear]
  · rw [List.getElem?_take, if_pos hi]
  · rw [List.getElem?_take, if_pos hi, List.getElem?_drop, Nat.add_comm]

theorem child_beq_iff (a b : Child) : (a == b) = true ↔ a = b := by
  cases a <;> cases b <;> simp [BEq.beq, instBEqChild.beq]

theorem single_leaf (qs : Questions) (st : Nat) (id : Int) (q : String) (k : Nat) (label : List Char) :
    evalTree qs ⟨st, [⟨id, q, .pdf k, .pdf k⟩]⟩ label = some k := by
  simp [evalTree, child_beq_iff]

/-- well-formed file tree: distinct row ids, and every node reference points to a *later* row (as in every HTS
    file; makes the walk terminate). A tree without rows satisfies it: where a row is needed, `t.rows ≠ []` is said
    beside it. -/
def TreeWF (t : FileTree) : Prop :=
  (t.rows.map (fun (x : Row) => x.id)).Nodup ∧
  ∀ (i : Nat) (r : Row), t.rows[i]? = some r →
    (∀ id, r.yes = .node id → ∃ j : Nat, i < j ∧ (t.rows[j]?).map (fun (x : Row) => x.id) = some id) ∧
    (∀ id, r.no = .node id → ∃ j : Nat, i < j ∧ (t.rows[j]?).map (fun (x : Row) => x.id) = some id)

theorem treeWF_cons (st : Nat) (r : Row) (rest : List Row)
    (hid : r.id ∉ rest.map Row.id)
    (hy : ∀ id, r.yes = .node id → id ∈ rest.map Row.id)
    (hn : ∀ id, r.no = .node id → id ∈ rest.map Row.id)
    (h : TreeWF ⟨st, rest⟩) : TreeWF ⟨st, r :: rest⟩ := by
  have later : ∀ id, id ∈ rest.map Row.id →
      ∃ j : Nat, 0 < j ∧ ((r :: rest)[j]?).map Row.id = some id := fun id hmem => by
    obtain ⟨j, hj, rfl⟩ := List.mem_iff_getElem.1 hmem
    rw [List.length_map] at hj
    exact ⟨j + 1, Nat.succ_pos _, by simp [hj]⟩
  refine ⟨List.nodup_cons.2 ⟨hid, h.1⟩, fun i r' hr' => ?_⟩
  cases i with
  | zero =>
    cases Option.some.inj hr'
    exact ⟨fun id hc => later id (hy id hc), fun id hc => later id (hn id hc)⟩
  | succ i =>
    obtain ⟨a, b⟩ := h.2 i r' hr'
    have shift : ∀ id, (∃ j : Nat, i < j ∧ (rest[j]?).map Row.id = some id) →
        ∃ j : Nat, i + 1 < j ∧ ((r :: rest)[j]?).map Row.id = some id :=
      fun id ⟨j, hij, hj⟩ => ⟨j + 1, Nat.succ_lt_succ hij, hj⟩
    exact ⟨fun id hc => shift id (a id hc), fun id hc => shift id (b id hc)⟩

/-! ### `convert_tree` unfolded: the pieces of `convertTree.convertRows` by name -/

def pdfIds (rows : List Row) : List Nat :=
  sortNat (rows.foldl (fun acc r =>
      let acc := match r.yes with | .pdf k => acc ++ [k] | _ => acc
      match r.no with | .pdf k => acc ++ [k] | _ => acc) [])

def resolveC (rows : List Row) (c : Child) : Option Nat :=
  match c with
  | .node id => ((rows.map (·.id)).zip (List.range rows.length)).find? (·.1 == id) |>.map (·.2)
  | .pdf k => (indexOf? (pdfIds rows) k).map (· + rows.length)

/-- one step of the fold inside the guarded `convert_tree` (its `fail` is `.err`) -/
def convertStep (qs : Questions) (rows : List Row) (acc : Outcome String (List TNode)) (r : Row) :
    Outcome String (List TNode) :=
  match acc with
  | .ok nodes =>
    match resolveC rows r.yes, resolveC rows r.no, lookupQ qs r.qname with
    | some y, some nn, some pats => .ok (nodes ++ [.node pats y nn])
    | none, _, _ => .err "unknown node reference"
    | _, none, _ => .err "unknown node reference"
    | _, _, none => .err "unknown question"
  | e => e

theorem convertRows_eq (qs : Questions) (t : FileTree) :
    convertTree.convertRows qs .err t =
      match t.rows.foldl (convertStep qs t.rows) (.ok []) with
      | .ok nodes => .ok (t.state, nodes ++ (pdfIds t.rows).map .leaf)
      | .err e => .err e
      | .panic s => .panic s := rfl

theorem convertTree_guarded (qs : Questions) (t : FileTree) : convertTree true qs t =
    match t.rows with
    | [r] =>
      if r.yes == r.no then
        match r.yes with
        | .pdf k => .ok (t.state, [.leaf k])
        | .node _ => .err "single child is a node id"
      else convertTree.convertRows qs .err t
    | _ => convertTree.convertRows qs .err t := rfl

def Resolves (qs : Questions) (rows : List Row) (r : Row) : Prop :=
  ∃ y nn pats, resolveC rows r.yes = some y ∧ resolveC rows r.no = some nn ∧ lookupQ qs r.qname = some pats

/-- the table entry of a row (meaningful when the row resolves) -/
def rowNodeD (qs : Questions) (rows : List Row) (r : Row) : TNode :=
  .node ((lookupQ qs r.qname).getD []) ((resolveC rows r.yes).getD 0) ((resolveC rows r.no).getD 0)

theorem sat_foldl_convertStep (qs : Questions) (rows l : List Row) (acc : List TNode) :
    Outcome.Sat (fun res => (∀ r ∈ l, Resolves qs rows r) ∧ res = acc ++ l.map (rowNodeD qs rows))
      (l.foldl (convertStep qs rows) (.ok acc)) := by
  induction l generalizing acc with
  | nil => exact And.intro (fun r hr => nomatch hr) (List.append_nil _).symm
  | cons r l ih =>
    rw [List.foldl_cons, convertStep]
    split
    · next y nn pats h1 h2 h3 =>
      refine (ih _).mono fun res h => ⟨List.forall_mem_cons.2 ⟨⟨y, nn, pats, h1, h2, h3⟩, h.1⟩, ?_⟩
      rw [h.2]; simp [rowNodeD, h1, h2, h3]
    all_goals rw [foldl_fixed _ _ l fun _ _ => rfl]; trivial

theorem find?_zip_range {α : Type} (p : α → Bool) (l : List α) :
    ((l.zip (List.range l.length)).find? (fun x => p x.1)).map (·.2) = l.findIdx? p := by
  rw [List.findIdx?_eq_fst_find?_zipIdx, List.zipIdx_eq_zip_range', List.range_eq_range']

theorem resolveC_node (rows : List Row) (id : Int) (y : Nat) (h : resolveC rows (.node id) = some y) :
    ∃ r, rows[y]? = some r ∧ r.id = id ∧ findRow rows id = some r := by
  have h' : (rows.map (·.id)).findIdx? (· == id) = some y := by
    rw [← find?_zip_range, List.length_map]; exact h
  rw [List.findIdx?_map, List.findIdx?_eq_some_iff_getElem] at h'
  obtain ⟨hy, hp, hmin⟩ := h'
  refine ⟨rows[y], List.getElem?_eq_getElem hy, by simpa using hp, ?_⟩
  rw [findRow, List.find?_eq_some_iff_getElem]
  exact ⟨hp, y, hy, rfl, fun j hj => by simpa using hmin j hj⟩

theorem indexOf_go_spec (x : Nat) (l : List Nat) (i m : Nat) (h : indexOf?.go x i l = some m) :
    i ≤ m ∧ l[m - i]? = some x := by
  induction l generalizing i with
  | nil => simp [indexOf?.go] at h
  | cons y ys ih =>
    simp only [indexOf?.go] at h
    by_cases hy : y = x
    · simp only [hy, beq_self_eq_true, if_true, Option.some.injEq] at h
      subst h; simp [hy]
    · have hb : (y == x) = false := by simpa using hy
      simp only [hb] at h
      obtain ⟨hle, h1⟩ := ih (i + 1) h
      refine ⟨by omega, ?_⟩
      have : m - i = (m - (i + 1)) + 1 := by omega
      rw [this, List.getElem?_cons_succ]; exact h1

theorem resolveC_pdf (rows : List Row) (k y : Nat) (h : resolveC rows (.pdf k) = some y) :
    ∃ j, y = rows.length + j ∧ (pdfIds rows)[j]? = some k := by
  simp only [resolveC, indexOf?, Option.map_eq_some_iff] at h
  obtain ⟨j, hj, rfl⟩ := h
  exact ⟨j, by omega, by simpa using (indexOf_go_spec k _ 0 j hj).2⟩

/-- the table `convert_tree` builds from rows that all resolve -/
def tableOf (qs : Questions) (rows : List Row) : List TNode :=
  rows.map (rowNodeD qs rows) ++ (pdfIds rows).map TNode.leaf

theorem tableOf_row (qs : Questions) (rows : List Row) (y : Nat) (r : Row) (h : rows[y]? = some r) :
    (tableOf qs rows)[y]? = some (rowNodeD qs rows r) := by
  have hy : y < rows.length := (List.getElem?_eq_some_iff.1 h).1
  rw [tableOf, List.getElem?_append_left (by simpa using hy), List.getElem?_map, h]; rfl

theorem tableOf_leaf (qs : Questions) (rows : List Row) (j k : Nat) (h : (pdfIds rows)[j]? = some k) :
    (tableOf qs rows)[rows.length + j]? = some (.leaf k) := by
  rw [tableOf, List.getElem?_append_right (by simp)]; simp [h]

theorem resolve_later (t : FileTree) (hwf : TreeWF t) (i : Nat) (r : Row) (hr : t.rows[i]? = some r)
    (c : Child) (hc : c = r.yes ∨ c = r.no) (y : Nat) (hy : resolveC t.rows c = some y) : i < y := by
  have hi : i < t.rows.length := (List.getElem?_eq_some_iff.1 hr).1
  cases c with
  | pdf k => obtain ⟨j, rfl, _⟩ := resolveC_pdf _ _ _ hy; omega
  | node id =>
    obtain ⟨r', hr', hid, _⟩ := resolveC_node _ _ _ hy
    obtain ⟨h1, h2⟩ := hwf.2 i r hr
    have hj : ∃ j, i < j ∧ (t.rows[j]?).map (fun (x : Row) => x.id) = some id := by
      rcases hc with hc | hc
      · exact h1 id hc.symm
      · exact h2 id hc.symm
    obtain ⟨j, hij, hj⟩ := hj
    have hy' : y < (t.rows.map (fun (x : Row) => x.id)).length := by
      simpa using (List.getElem?_eq_some_iff.1 hr').1
    have heq : (t.rows.map (fun (x : Row) => x.id))[y]? = (t.rows.map (fun (x : Row) => x.id))[j]? := by
      rw [List.getElem?_map, List.getElem?_map, hj, hr']; simp [hid]
    have := (List.getElem?_inj hy' hwf.1).1 heq
    omega

theorem evalChild_pdf (qs : Questions) (rows : List Row) (label : List Char) (m k : Nat) :
    evalChild qs rows label m (.pdf k) = some k := by
  cases m <;> rfl

/-- **The simulation behind C04.** A child that resolves to table index `y` gives the same answer in both walks once
    the fuel is at least `rows.length − y`.  Induction on the fuel; `resolve_later` makes `y` grow along the walk. -/
theorem searchNode_tableOf_eq_evalChild (qs : Questions) (t : FileTree) (hwf : TreeWF t) (label : List Char)
    (hall : ∀ r ∈ t.rows, Resolves qs t.rows r) :
    ∀ (m : Nat) (c : Child) (y : Nat), resolveC t.rows c = some y → t.rows.length - y ≤ m →
      ∃ k, searchNode (tableOf qs t.rows) label (m + 1) y = some k ∧
        evalChild qs t.rows label m c = some k := by
  have hpdf : ∀ (m k y : Nat), resolveC t.rows (.pdf k) = some y →
      ∃ k', searchNode (tableOf qs t.rows) label (m + 1) y = some k' ∧
        evalChild qs t.rows label m (.pdf k) = some k' := by
    intro m k y hy
    obtain ⟨j, rfl, hj⟩ := resolveC_pdf _ _ _ hy
    exact ⟨k, by rw [searchNode, tableOf_leaf qs _ _ _ hj], evalChild_pdf _ _ _ _ _⟩
  -- a leaf is `hpdf` at any fuel; only a node reference needs the induction
  intro m
  induction m with
  | zero =>
    intro c y hy hm
    cases c with
    | pdf k => exact hpdf 0 k y hy
    | node id =>
      obtain ⟨r, hr, _, _⟩ := resolveC_node _ _ _ hy
      have := (List.getElem?_eq_some_iff.1 hr).1
      omega
  | succ m ih =>
    intro c y hy hm
    cases c with
    | pdf k => exact hpdf _ k y hy
    | node id =>
      obtain ⟨r, hr, hid, hfind⟩ := resolveC_node _ _ _ hy
      obtain ⟨yy, nn, pats, h1, h2, h3⟩ := hall r (List.mem_of_getElem? hr)
      have hlt := (List.getElem?_eq_some_iff.1 hr).1
      rw [searchNode, tableOf_row qs _ _ _ hr]
      simp only [rowNodeD, h1, h2, h3, Option.getD_some]
      rw [evalChild]
      simp only [hfind, h3]
      by_cases hq : questionTest pats label = true
      · simp only [hq, if_true]
        have := resolve_later t hwf y r hr r.yes (Or.inl rfl) yy h1
        exact ih r.yes yy h1 (by omega)
      · simp only [hq]
        have := resolve_later t hwf y r hr r.no (Or.inr rfl) nn h2
        exact ih r.no nn h2 (by omega)

theorem convertTree_refines (qs : Questions) (t : FileTree) (st : Nat) (nodes : List TNode)
    (hwf : TreeWF t) (hne : t.rows ≠ []) (hc : convertTree true qs t = .ok (st, nodes)) (label : List Char) :
    ∃ k, evalTree qs t label = some k ∧ searchNode nodes label (t.rows.length + 2) 0 = some k := by
  rw [convertTree_guarded] at hc
  obtain ⟨st0, rows⟩ := t
  cases rows with
  | nil => exact absurd rfl hne
  | cons r0 rest =>
  -- the case split is `evalTree`'s own test for the single-leaf form
  by_cases hsingle : ((r0 :: rest).length == 1 && r0.yes == r0.no) = true
  · -- the single-leaf form: the table is the one leaf
    obtain ⟨hl, hb⟩ := (Bool.and_eq_true _ _).mp hsingle
    obtain rfl : rest = [] := List.length_eq_zero_iff.1 (by simpa using hl)
    dsimp only at hc
    rw [if_pos hb] at hc
    cases hy : r0.yes with
    | pdf k =>
      rw [hy] at hc hb
      cases hc
      exact ⟨k, by simp [evalTree, hb, hy], rfl⟩
    | node id =>
      rw [hy] at hc
      cases hc
  · -- otherwise the fold returns the table `tableOf` (`sat_foldl_convertStep`), row 0 resolves to index 0, and the
    -- simulation applies from there with `rows.length + 1` steps of fuel
    have hrows : convertTree.convertRows qs .err ⟨st0, r0 :: rest⟩ = .ok (st, nodes) := by
      cases rest with
      | nil => exact (if_neg fun h => hsingle (by rw [h]; rfl)).symm.trans hc
      | cons r1 rest => exact hc
    rw [convertRows_eq] at hrows
    dsimp only at hrows
    rcases hf : (r0 :: rest).foldl (convertStep qs (r0 :: rest)) (.ok []) with ns | e | s <;> rw [hf] at hrows
    · obtain ⟨hall, rfl⟩ := (Outcome.sat_iff.1 (sat_foldl_convertStep qs _ _ [])).2 _ hf
      obtain ⟨-, rfl⟩ := Prod.mk.inj (Outcome.ok.inj hrows)
      have hroot : resolveC (r0 :: rest) (.node r0.id) = some 0 := by
        simp [resolveC, List.range_succ_eq_map]
      obtain ⟨k, hk1, hk2⟩ := searchNode_tableOf_eq_evalChild qs ⟨st0, r0 :: rest⟩ hwf label hall
        (rest.length + 1 + 1) (.node r0.id) 0 hroot (by simp)
      refine ⟨k, ?_, hk1⟩
      rw [← hk2, evalTree]
      dsimp only
      exact if_neg hsingle
    · cases hrows
    · cases hrows

set_option linter.unusedVariables false in
/-- `rows.length + 2` steps of fuel for the table, `rows.length + 1` for the file's tree (inside `evalTree`). `hnot` is not
    used: `convertTree_refines` covers the single-leaf form. -/
theorem search_refines_eval (qs : Questions) (t : FileTree) (st : Nat) (nodes : List TNode)
    (hwf : TreeWF t) (hne : t.rows ≠ [])
    (hnot : ¬ (t.rows.length = 1 ∧ ∃ r, t.rows = [r] ∧ r.yes = r.no))
    (hc : convertTree true qs t = .ok (st, nodes)) (label : List Char) :
    searchNode nodes label (t.rows.length + 2) 0 = evalTree qs t label ∧
    ∃ k, evalTree qs t label = some k :=
  have ⟨k, h1, h2⟩ := convertTree_refines qs t st nodes hwf hne hc label
  ⟨h2.trans h1.symm, k, h1⟩

theorem evalTree_total_of_wf (qs : Questions) (t : FileTree) (hwf : TreeWF t) (hne : t.rows ≠ [])
    (r : Nat × List TNode) (hc : convertTree true qs t = .ok r) (label : List Char) :
    ∃ k, evalTree qs t label = some k :=
  have ⟨k, h, _⟩ := convertTree_refines qs t r.1 r.2 hwf hne hc label
  ⟨k, h⟩

theorem _root_.Jb.Synth.evalTree_total (qs : Questions) (t : FileTree) (st : Nat) (nodes : List TNode) (hwf : TreeWF t)
    (hne : t.rows ≠ []) (hc : convertTree true qs t = .ok (st, nodes)) (label : List Char) :
    (evalTree qs t label).isSome = true := by
  obtain ⟨k, hk⟩ := evalTree_total_of_wf qs t hwf hne (st, nodes) hc label
  simp [hk]

theorem getParameter_index (m : FileModel) (k : Nat) (label : List Char) (ti id : Nat) (p : PdfBits)
    (h : getParameter m k label = some (ti, id, p)) :
    2 ≤ ti ∧ 1 ≤ id ∧ ∃ t ps, m.trees[ti - 2]? = some t ∧ t.state = k ∧ evalTree m.questions t label = some id ∧
      m.pdfs[ti - 2]? = some ps ∧ ps[id - 1]? = some p := by
  revert h
  -- the one branch of `getParameter` that returns a value
  fun_cases getParameter m k label
  case case6 idx i hidx t ht kk hev hk0 p' hp =>
    intro h
    obtain ⟨rfl, rfl, rfl⟩ := Prod.mk.inj (Option.some.inj h) |>.imp_right Prod.mk.inj
    obtain ⟨ps, hps, hpk⟩ := Option.bind_eq_some_iff.1 hp
    have hidx : m.trees.findIdx? (fun t => t.state == k) = some i := find?_zip_range _ _ ▸ hidx
    obtain ⟨hlt, hst, -⟩ := List.findIdx?_eq_some_iff_getElem.1 hidx
    rw [List.getElem?_eq_getElem hlt, Option.some.injEq] at ht
    subst ht
    exact ⟨Nat.le_add_left _ _, Nat.pos_of_ne_zero hk0, _, ps, List.getElem?_eq_getElem hlt, by simpa using hst,
      hev, hps, hpk⟩
  all_goals exact fun h => nomatch h

theorem getParameter_mem_pdfs (m : FileModel) (k : Nat) (label : List Char) (ti id : Nat) (p : PdfBits)
    (h : getParameter m k label = some (ti, id, p)) : ∃ ps ∈ m.pdfs, p ∈ ps :=
  have ⟨_, _, _, ps, _, _, _, hps, hp⟩ := getParameter_index m k label ti id p h
  ⟨ps, List.mem_of_getElem? hps, List.mem_of_getElem? hp⟩

theorem evalChild_leaf (qs : Questions) (rows : List Row) (label : List Char) (k : Nat) :
    ∀ (fuel : Nat) (c : Child), evalChild qs rows label fuel c = some k →
      c = .pdf k ∨ ∃ r ∈ rows, r.yes = .pdf k ∨ r.no = .pdf k := by
  intro fuel
  induction fuel with
  | zero =>
    rintro (id | k') h
    · cases h
    · exact Or.inl (congrArg Child.pdf (Option.some.inj h))
  | succ fuel ih =>
    rintro (id | k') h
    · rw [evalChild] at h
      split at h
      · cases h
      · next r hf =>
        split at h
        · cases h
        · next pats hq =>
          refine (ih _ h).elim (fun hc => Or.inr ⟨r, List.mem_of_find?_eq_some hf, ?_⟩) Or.inr
          split at hc
          · exact Or.inl hc
          · exact Or.inr hc
    · exact Or.inl (congrArg Child.pdf (Option.some.inj h))

theorem evalTree_leaf (qs : Questions) (t : FileTree) (label : List Char) (k : Nat)
    (h : evalTree qs t label = some k) : ∃ r ∈ t.rows, r.yes = .pdf k ∨ r.no = .pdf k := by
  unfold evalTree at h
  cases hrows : t.rows with
  | nil => simp [hrows] at h
  | cons r rest =>
    simp only [hrows] at h
    split_ifs at h with hc
    · cases hy : r.yes with
      | pdf k' =>
        simp only [hy, Option.some.injEq] at h
        subst h
        exact ⟨r, by simp, Or.inl hy⟩
      | node id => simp [hy] at h
    · rcases evalChild_leaf qs _ label k _ _ h with hc' | hex
      · cases hc'
      · exact hex

theorem getParameter_of_tree (m : FileModel) (st ti : Nat) (t : FileTree) (ps : List PdfBits) (label : List Char)
    (hidx : ((m.trees.zip (List.range m.trees.length)).find? (·.1.state == st)).map (·.2) = some ti)
    (ht : m.trees[ti]? = some t) (hp : m.pdfs[ti]? = some ps) (k : Nat)
    (hev : evalTree m.questions t label = some k)
    (hleaf : ∀ r ∈ t.rows, ∀ k, (r.yes = .pdf k ∨ r.no = .pdf k) → 1 ≤ k ∧ k ≤ ps.length) :
    ∃ p, getParameter m st label = some (ti + 2, k, p) := by
  -- the walk ended in an id written in the tree, so within the PDF list
  obtain ⟨r, hr, hrk⟩ := evalTree_leaf _ _ _ _ hev
  obtain ⟨hk0, hkl⟩ := hleaf r hr k hrk
  have hlt : k - 1 < ps.length := by omega
  refine ⟨ps[k - 1], ?_⟩
  unfold getParameter
  simp only [hidx, ht, hev, hp, Option.bind_some]
  rw [if_neg (by omega), List.getElem?_eq_getElem hlt]

/-! ### C18: witnesses for the panic sites of the pinned commit, and the same inputs at the guarded sites -/

theorem bytesOf_nines : bytesOf "99999999999999999999999999" = List.replicate 26 57 := by decide +kernel

theorem siteFail_guarded {α : Type} (site what : String) : (siteFail true site what : Res α) = .err what := rfl

theorem pinned_overflow_panics :
    ∃ s, headerNat false true (bytesOf "99999999999999999999999999") = .panic s := by
  rw [bytesOf_nines]; exact ⟨_, rfl⟩

theorem guarded_same_inputs_are_errors :
    (∃ e, sliceIncl true "parser/mod.rs" [1, 2, 3] (5, 2) = .err e) ∧
    (∃ e, headerNat true true (bytesOf "99999999999999999999999999") = .err e) ∧
    (∃ e, convertTree true [] ⟨2, [⟨0, "Q", .pdf 1, .pdf 2⟩]⟩ = .err e) := by
  rw [bytesOf_nines]; exact ⟨⟨_, rfl⟩, ⟨_, rfl⟩, ⟨_, rfl⟩⟩

end Jb.Hts
