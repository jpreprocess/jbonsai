/-
  What an ACCEPTED voice file guarantees about the *shape* of the parsed voice (guarded reader:
  `parseVoice true bytes = .ok v`), i.e. the facts the well-formedness of the synthesis pipeline can take from the loader.

  `parseVoice_shape` — stream count, the PDF layout of every model, a GV model iff `USE_GV`, one PDF list per tree, every
  node / question reference resolves — is read off `parseVoice_spec` (`Jb/Proofs/HtsRead.lean`); `selected_shape`
  carries it to what selection returns (`getParameter_mem_pdfs`, Hts.lean: what is selected is one of the model's PDFs).

  What the reader does NOT check although the pipeline relies on it (N1 … N8, at the theorems of `ParseShapeEx`): each
  item is a theorem about ONE complete file image, `ParseShapeEx.exBytes`, that the guarded reader accepts (`ex_accepted`,
  by kernel evaluation).  Not exhibited, read off the definitions: a leaf id 0 (`parseChild` / `getParameter`); equal row
  ids within a tree and equal `QS` names (the model resolves a reference to the FIRST row / question with that id or
  name, `convertTree.convertRows` and `lookupQ`; the Rust loader keeps the LAST, parser/model/mod.rs:62, :75).  Visible
  in `exBytes`: byte ranges of different models need not be disjoint or ordered.
-/
import Jb.Proofs.HtsRead

namespace Jb.Hts

theorem parseVoice_shape (bytes : List Nat) (v : ParsedVoice) (h : parseVoice true bytes = .ok v) :
    (v.streams.length = v.global.nstreams ∧ 0 < v.streams.length) ∧
    ((∀ ps ∈ v.duration.pdfs, ∀ p ∈ ps,
        p.means.length = v.global.nstates ∧ p.varis.length = v.global.nstates ∧ p.msd = none) ∧
      v.duration.pdfs.length = v.duration.trees.length ∧
      ∀ t ∈ v.duration.trees, ∃ r, convertTree true v.duration.questions t = .ok r) ∧
    (∀ s ∈ v.streams,
      (∀ ps ∈ s.model.pdfs, ∀ p ∈ ps,
        p.means.length = s.info.veclen * s.info.nwin ∧ p.varis.length = s.info.veclen * s.info.nwin ∧
        p.msd.isSome = s.info.isMsd) ∧
      s.model.pdfs.length = s.model.trees.length ∧
      ∀ t ∈ s.model.trees, ∃ r, convertTree true s.model.questions t = .ok r) ∧
    (∀ s ∈ v.streams,
      (s.info.useGv = true → ∃ g, s.gv = some g ∧
        (∀ ps ∈ g.pdfs, ∀ p ∈ ps,
          p.means.length = s.info.veclen ∧ p.varis.length = s.info.veclen ∧ p.msd = none) ∧
        g.pdfs.length = g.trees.length ∧
        ∀ t ∈ g.trees, ∃ r, convertTree true g.questions t = .ok r) ∧
      (s.info.useGv = false → s.gv = none)) := by
  have hv := parseVoice_spec h
  have hl : v.streams.length = v.global.streamType.length := by rw [← hv.names, List.length_map]
  refine ⟨⟨hl.trans hv.nstreams.symm, hl ▸ List.length_pos_iff.2 hv.ne⟩,
    ⟨hv.duration.plain, hv.duration.pdfs_length, hv.duration.converts⟩, fun s hs => ?_, fun s hs => ?_⟩
  · have hm := (hv.streams s hs).model
    exact ⟨hm.shape _ _ (by omega), hm.pdfs_length, hm.converts⟩
  · have hsp := hv.streams s hs
    refine ⟨fun hu => ?_, fun hu => Option.not_isSome_iff_eq_none.1 (by rw [hsp.gv_isSome, hu]; exact Bool.false_ne_true)⟩
    obtain ⟨g, hgv⟩ := Option.isSome_iff_exists.1 (hsp.gv_isSome.trans hu)
    have hm := hsp.gv g hgv
    exact ⟨g, hgv, hm.plain, hm.pdfs_length, hm.converts⟩

theorem ModelSpec.selected_shape {n pdfLen : Nat} {m : FileModel} (hm : ModelSpec n pdfLen m)
    (k : Nat) (msd : Bool) (hlen : pdfLen = 2 * k + (if msd then 1 else 0)) {st ti id : Nat} {label : List Char}
    {p : PdfBits} (hg : getParameter m st label = some (ti, id, p)) :
    p.means.length = k ∧ p.varis.length = k ∧ p.msd.isSome = msd :=
  have ⟨ps, hps, hp⟩ := getParameter_mem_pdfs m st label ti id p hg
  hm.shape k msd hlen ps hps p hp

theorem ModelSpec.selected_plain {n k : Nat} {m : FileModel} (hm : ModelSpec n (k * 2) m) {st ti id : Nat}
    {label : List Char} {p : PdfBits} (hg : getParameter m st label = some (ti, id, p)) :
    p.means.length = k ∧ p.varis.length = k ∧ p.msd = none :=
  have ⟨ps, hps, hp⟩ := getParameter_mem_pdfs m st label ti id p hg
  hm.plain ps hps p hp

theorem selected_shape (bytes : List Nat) (v : ParsedVoice) (h : parseVoice true bytes = .ok v)
    (k : Nat) (label : List Char) (ti id : Nat) (p : PdfBits) :
    (getParameter v.duration k label = some (ti, id, p) →
      p.means.length = v.global.nstates ∧ p.varis.length = v.global.nstates ∧ p.msd = none) ∧
    (∀ s ∈ v.streams, getParameter s.model k label = some (ti, id, p) →
      p.means.length = s.info.veclen * s.info.nwin ∧ p.varis.length = s.info.veclen * s.info.nwin ∧
      p.msd.isSome = s.info.isMsd) ∧
    (∀ s ∈ v.streams, ∀ g, s.gv = some g → getParameter g k label = some (ti, id, p) →
      p.means.length = s.info.veclen ∧ p.varis.length = s.info.veclen ∧ p.msd = none) := by
  have hv := parseVoice_spec h
  exact ⟨hv.duration.selected_plain, fun s hs => (hv.streams s hs).model.selected_shape _ _ (by omega),
    fun s hs g hgv hg => ((hv.streams s hs).gv g hgv).selected_plain hg⟩

/-! ### what the reader does NOT check: one accepted file, kernel-checked

`exBytes` is a complete `.htsvoice` image (header text, then the data section).  `ex_accepted` is proved by kernel
evaluation of the reader model (`decide +kernel`: the kernel itself reduces the term, no compiled code is trusted), so
every "accepted although …" claim is a theorem about `parseVoice true`. -/

namespace ParseShapeEx

-- global instances, for kernel evaluation of the reader (here and `SupportedEx.ok_accepted`, Supported.lean)
deriving instance DecidableEq for Row, FileTree, PdfBits, FileModel, HStream, HGlobal, ParsedStream, ParsedVoice
deriving instance DecidableEq for Jb.Outcome

def exHeader : String :=
  "[GLOBAL]\nHTS_VOICE_VERSION:1.0\nSAMPLING_FREQUENCY:48000\nFRAME_PERIOD:240\nNUM_STATES:2\nNUM_STREAMS:2\n" ++
  "STREAM_TYPE:MCP,LF0\nFULLCONTEXT_FORMAT:HTS_TTS_JPN\nFULLCONTEXT_VERSION:1.0\nGV_OFF_CONTEXT:\nCOMMENT:\n" ++
  "[STREAM]\nVECTOR_LENGTH[MCP]:1\nNUM_WINDOWS[MCP]:3\nIS_MSD[MCP]:0\nUSE_GV[MCP]:0\nOPTION[MCP]:\n" ++
  "VECTOR_LENGTH[LF0]:0\nNUM_WINDOWS[LF0]:0\nIS_MSD[LF0]:1\nUSE_GV[LF0]:0\nOPTION[LF0]:\n" ++
  "[POSITION]\nDURATION_PDF:11-30\nDURATION_TREE:0-10\n" ++
  "STREAM_WIN[MCP]:111-115\nSTREAM_PDF[MCP]:79-110\nSTREAM_TREE[MCP]:31-78\n" ++
  "STREAM_WIN[LF0]:\nSTREAM_PDF[LF0]:116-123\nSTREAM_TREE[LF0]:124-134\n[DATA]\n"

/-- the UTF-8 bytes of `exHeader`, written out as numbers (kernel evaluation of `String.toUTF8` on a long literal is
    slow).  `ex_accepted` below is about these numbers and needs nothing else; the `#guard` after this definition
    (evaluated, not a kernel proof) documents that they spell `exHeader` -/
def exHeaderBytes : List Nat :=
  [91, 71, 76, 79, 66, 65, 76, 93, 10, 72, 84, 83, 95, 86, 79, 73, 67, 69, 95, 86, 69, 82, 83, 73, 79, 78, 58, 49,
   46, 48, 10, 83, 65, 77, 80, 76, 73, 78, 71, 95, 70, 82, 69, 81, 85, 69, 78, 67, 89, 58, 52, 56, 48, 48, 48, 10,
   70, 82, 65, 77, 69, 95, 80, 69, 82, 73, 79, 68, 58, 50, 52, 48, 10, 78, 85, 77, 95, 83, 84, 65, 84, 69, 83, 58,
   50, 10, 78, 85, 77, 95, 83, 84, 82, 69, 65, 77, 83, 58, 50, 10, 83, 84, 82, 69, 65, 77, 95, 84, 89, 80, 69, 58,
   77, 67, 80, 44, 76, 70, 48, 10, 70, 85, 76, 76, 67, 79, 78, 84, 69, 88, 84, 95, 70, 79, 82, 77, 65, 84, 58, 72,
   84, 83, 95, 84, 84, 83, 95, 74, 80, 78, 10, 70, 85, 76, 76, 67, 79, 78, 84, 69, 88, 84, 95, 86, 69, 82, 83, 73,
   79, 78, 58, 49, 46, 48, 10, 71, 86, 95, 79, 70, 70, 95, 67, 79, 78, 84, 69, 88, 84, 58, 10, 67, 79, 77, 77, 69,
   78, 84, 58, 10, 91, 83, 84, 82, 69, 65, 77, 93, 10, 86, 69, 67, 84, 79, 82, 95, 76, 69, 78, 71, 84, 72, 91, 77,
   67, 80, 93, 58, 49, 10, 78, 85, 77, 95, 87, 73, 78, 68, 79, 87, 83, 91, 77, 67, 80, 93, 58, 51, 10, 73, 83, 95,
   77, 83, 68, 91, 77, 67, 80, 93, 58, 48, 10, 85, 83, 69, 95, 71, 86, 91, 77, 67, 80, 93, 58, 48, 10, 79, 80, 84,
   73, 79, 78, 91, 77, 67, 80, 93, 58, 10, 86, 69, 67, 84, 79, 82, 95, 76, 69, 78, 71, 84, 72, 91, 76, 70, 48, 93,
   58, 48, 10, 78, 85, 77, 95, 87, 73, 78, 68, 79, 87, 83, 91, 76, 70, 48, 93, 58, 48, 10, 73, 83, 95, 77, 83, 68,
   91, 76, 70, 48, 93, 58, 49, 10, 85, 83, 69, 95, 71, 86, 91, 76, 70, 48, 93, 58, 48, 10, 79, 80, 84, 73, 79, 78,
   91, 76, 70, 48, 93, 58, 10, 91, 80, 79, 83, 73, 84, 73, 79, 78, 93, 10, 68, 85, 82, 65, 84, 73, 79, 78, 95, 80,
   68, 70, 58, 49, 49, 45, 51, 48, 10, 68, 85, 82, 65, 84, 73, 79, 78, 95, 84, 82, 69, 69, 58, 48, 45, 49, 48, 10,
   83, 84, 82, 69, 65, 77, 95, 87, 73, 78, 91, 77, 67, 80, 93, 58, 49, 49, 49, 45, 49, 49, 53, 10, 83, 84, 82, 69,
   65, 77, 95, 80, 68, 70, 91, 77, 67, 80, 93, 58, 55, 57, 45, 49, 49, 48, 10, 83, 84, 82, 69, 65, 77, 95, 84, 82,
   69, 69, 91, 77, 67, 80, 93, 58, 51, 49, 45, 55, 56, 10, 83, 84, 82, 69, 65, 77, 95, 87, 73, 78, 91, 76, 70, 48,
   93, 58, 10, 83, 84, 82, 69, 65, 77, 95, 80, 68, 70, 91, 76, 70, 48, 93, 58, 49, 49, 54, 45, 49, 50, 51, 10, 83,
   84, 82, 69, 65, 77, 95, 84, 82, 69, 69, 91, 76, 70, 48, 93, 58, 49, 50, 52, 45, 49, 51, 52, 10, 91, 68, 65, 84,
   65, 93, 10]

#guard bytesOf exHeader == exHeaderBytes

/-- data section: duration tree (bytes 0-10), duration PDFs (11-30: one PDF of 4 words), MCP trees (31-78: one question,
    a one-row tree for state 2 whose "yes" child is the row itself, a tree for state 5 with no row), MCP PDFs (79-110:
    counts 1 and 0, one PDF of 6 words), ONE window row (111-115), LF0 PDFs (116-123), LF0 tree (124-134) -/
def exBytes : List Nat :=
  exHeaderBytes ++
  bytesOf "{*}[2] d_7\n" ++ ([1,0,0,0] ++ List.replicate 16 0) ++
  bytesOf "QS Q { \"*\" }\n{*}[2]\n{\n 0 Q \"m_1\" 0\n}\n{*}[5] { }\n" ++ ([1,0,0,0, 0,0,0,0] ++ List.replicate 24 0) ++
  bytesOf "1 1.0" ++ [1,0,0,0, 0,0,0,0] ++ bytesOf "{*}[2] f_1\n"

def exDur : FileModel :=
  { questions := [],
    trees := [{ state := 2, rows := [{ id := 0, qname := "", no := .pdf 7, yes := .pdf 7 }] }],
    pdfs := [[{ means := [0, 0], varis := [0, 0], msd := none }]] }

def exCyc : FileTree := { state := 2, rows := [{ id := 0, qname := "Q", no := .pdf 1, yes := .node 0 }] }

def exMcp : FileModel :=
  { questions := [("Q", [['*']])],
    trees := [exCyc, { state := 5, rows := [] }],
    pdfs := [[{ means := [0, 0, 0], varis := [0, 0, 0], msd := none }], []] }

def exLf0 : FileModel :=
  { questions := [],
    trees := [{ state := 2, rows := [{ id := 0, qname := "", no := .pdf 1, yes := .pdf 1 }] }],
    pdfs := [[{ means := [], varis := [], msd := some 0 }]] }

def exVoice : ParsedVoice :=
  { global := { version := "1.0", sr := 48000, fp := 240, nstates := 2, nstreams := 2, streamType := ["MCP", "LF0"],
                fmt := "HTS_TTS_JPN", fver := "1.0", gvOff := [] },
    duration := exDur,
    streams := [
      { name := "MCP", info := { veclen := 1, nwin := 3, isMsd := false, useGv := false, option := [] },
        model := exMcp, gv := none, windows := [["1.0"]] },
      { name := "LF0", info := { veclen := 0, nwin := 0, isMsd := true, useGv := false, option := [] },
        model := exLf0, gv := none, windows := [] }] }

theorem ex_accepted : parseVoice true exBytes = .ok exVoice := by decide +kernel

/-- (N1) `NUM_WINDOWS` is not compared with the number of `STREAM_WIN` ranges: 3 announced / 1 read, 0 announced / 0 read
    (and the PDF width `veclen * nwin` follows the announced number) -/
theorem ex_windows : exVoice.streams.map (fun s => (s.info.nwin, s.windows.length)) = [(3, 1), (0, 0)] := rfl

/-- (N2) `VECTOR_LENGTH`, `NUM_WINDOWS` may be 0: the LF0 stream is accepted with empty means and variances -/
theorem ex_zero_width : exVoice.streams.map (fun s => (s.info.veclen, s.info.nwin,
    s.model.pdfs.map (·.map fun p => (p.means.length, p.varis.length)))) =
    [(1, 3, [[(3, 3)], []]), (0, 0, [[(0, 0)]])] := rfl

/-- (N3) a leaf's PDF id is not compared with the tree's PDF count: the duration tree selects id 7 of 1 PDF, so the
    lookup fails for every label (the code's index panic at synthesis time) -/
theorem ex_leaf_out_of_range (label : List Char) :
    (exDur.trees.map fun t => evalTree exDur.questions t label) = [some 7] ∧ exDur.pdfs.map List.length = [1] ∧
    getParameter exVoice.duration 2 label = none := ⟨rfl, rfl, rfl⟩

theorem glob_star (s : List Char) : glob ['*'] s = true := by
  refine glob_complete _ _ ?_
  induction s with
  | nil => exact .star_skip .nil
  | cons c s ih => exact .star_eat ih

/-- (N4) trees may be cyclic: the accepted MCP tree for state 2 converts (all references resolve, the question is
    known), is not `TreeWF`, and its walk does not terminate for any label (the specification walk runs out of fuel) -/
theorem ex_cyclic (label : List Char) :
    (∃ r, convertTree true exMcp.questions exCyc = .ok r) ∧ ¬ TreeWF exCyc ∧
    evalTree exMcp.questions exCyc label = none ∧ getParameter exMcp 2 label = none := by
  have hev : evalTree exMcp.questions exCyc label = none := by
    simp [evalTree, evalChild, exCyc, exMcp, findRow, lookupQ, questionTest, glob_star, child_beq_iff]
  refine ⟨⟨_, rfl⟩, ?_, hev, ?_⟩
  · intro hwf
    obtain ⟨j, hj, hjr⟩ := (hwf.2 0 _ rfl).1 0 rfl
    have : exCyc.rows[j]? = none := by
      rw [List.getElem?_eq_none_iff]
      simp [exCyc]
      omega
    rw [this] at hjr
    cases hjr
  · -- `getParameter` evaluates up to the tree walk, the only part that depends on `label`
    have : getParameter exMcp 2 label = match evalTree exMcp.questions exCyc label with
        | none => none
        | some k => if k = 0 then none else
          match (exMcp.pdfs[0]?).bind (·[k - 1]?) with
          | none => none
          | some p => some (0 + 2, k, p) := rfl
    rw [this, hev]

/-- (N5) a tree may have no row at all (`{*}[5] { }`): it converts to the empty table, and no label selects anything;
    (N6) tree states are not compared with `NUM_STATES` (= 2 here: states 2 and 3 are needed): state 5 is present,
    state 3 is missing; (N7) a tree may own 0 PDFs -/
theorem ex_empty_tree_and_states (label : List Char) :
    convertTree true exMcp.questions ⟨5, []⟩ = .ok (5, []) ∧ evalTree exMcp.questions ⟨5, []⟩ label = none ∧
    exVoice.global.nstates = 2 ∧ exMcp.trees.map (·.state) = [2, 5] ∧ exMcp.pdfs.map List.length = [1, 0] ∧
    getParameter exMcp 5 label = none ∧ getParameter exMcp 3 label = none := ⟨rfl, rfl, rfl, rfl, rfl, rfl, rfl⟩

/-- (N8) a window row may hold no coefficient, or an even number of them -/
theorem ex_windows_rows : parseWindow [48] = some [] ∧ (parseWindow (bytesOf "2 1 1")).map List.length = some 2 := by
  decide +kernel

/-- the positive side on the same file: the LF0 model is fine, and selection returns a Gaussian of the announced shape -/
theorem ex_lf0 (label : List Char) :
    getParameter exLf0 2 label = some (2, 1, { means := [], varis := [], msd := some 0 }) := rfl

end ParseShapeEx

end Jb.Hts
