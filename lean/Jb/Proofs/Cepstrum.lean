/-
  The vocoder's coefficient transforms (`Jb/Model/Vocoder.lean`), as algebra over a field:
  `mc2b` and `b2mc` are mutually inverse for every α; `freqt` at α = 0 copies its input in the order it is fed;
  `gc2gc` between equal γ truncates (the correction term vanishes by a symmetry of its sum);
  `ignorm ∘ gnorm = id` under one law of `pow`.
-/
import Jb.Proofs.Field
import Jb.Proofs.ListAux
import Mathlib.Algebra.BigOperators.Intervals
import Mathlib.Tactic.Ring

namespace Jb

variable {K : Type} [Field K]

/-- `b2mc` without the case split on the tail: past the end `b[1]` reads as `0` -/
theorem b2mc_cons (alpha b : K) (l : List K) : b2mc alpha (b :: l) = (b + alpha * l.getD 0 0) :: b2mc alpha l := by
  cases l with
  | nil => rw [b2mc, b2mc, List.getD_nil, mul_zero, add_zero]
  | cons b' l => rfl

theorem b2mc_length (alpha : K) (b : List K) : (b2mc alpha b).length = b.length := by
  induction b with
  | nil => rfl
  | cons b l ih => rw [b2mc_cons, List.length_cons, ih, List.length_cons]

theorem b2mc_getD (alpha : K) (b : List K) (k : Nat) (hk : k < b.length) :
    (b2mc alpha b).getD k 0 = b.getD k 0 + alpha * b.getD (k + 1) 0 := by
  induction b generalizing k with
  | nil => cases hk
  | cons b l ih =>
    rw [b2mc_cons]
    cases k with
    | zero => rfl
    | succ k => exact ih k (Nat.lt_of_succ_lt_succ hk)

section
variable [LinearOrder K]

theorem mc2b_nil (alpha : K) : mc2b alpha [] = [] := by
  unfold mc2b; split <;> rfl

theorem mc2b_zero (c : List K) : mc2b (0 : K) c = c := by
  simp only [mc2b, isZeroS_zero, if_true]

/-- `b[i] = c[i] − α·b[i+1]`, where `b[i+1]` past the end reads as `0` -/
theorem mc2b_cons (alpha : K) (c : K) (cs : List K) :
    mc2b alpha (c :: cs) = (c - alpha * (mc2b alpha cs).getD 0 0) :: mc2b alpha cs := by
  unfold mc2b
  split
  · rename_i h
    rw [(isZeroS_iff alpha).1 h, zero_mul, sub_zero]
  · rw [List.foldr_cons]
    cases List.foldr _ [] cs with
    | nil => rw [List.getD_nil, mul_zero, sub_zero]
    | cons b t => rfl

theorem mc2b_length (alpha : K) (c : List K) : (mc2b alpha c).length = c.length := by
  induction c with
  | nil => rw [mc2b_nil]
  | cons c cs ih => rw [mc2b_cons, List.length_cons, ih, List.length_cons]

end

theorem freqtStep_go_length (alpha po pn : K) (l : List K) :
    (freqtStep.go alpha po pn l).length = l.length := by
  induction l generalizing po pn with
  | nil => rfl
  | cons gj tl ih => simp [freqtStep.go, ih]

theorem freqtStep_length (alpha aa x : K) (g : List K) :
    (freqtStep alpha aa x g).length = g.length := by
  match g with
  | [] => rfl
  | [g0] => rfl
  | g0 :: g1 :: rest2 => simp [freqtStep, freqtStep_go_length]

theorem freqt_length (fo : Bool) (c : List K) (m2 : Nat) (alpha : K) :
    (freqt fo c m2 alpha).length = m2 + 1 := by
  unfold freqt
  rw [foldl_measure_eq List.length _ fun g x => freqtStep_length alpha _ x g, List.length_replicate]

theorem freqtStep_go_zero (po pn : K) (l : List K) :
    freqtStep.go (0 : K) po pn l = (po :: l).take l.length := by
  induction l generalizing po pn with
  | nil => rfl
  | cons gj tl ih =>
    simp only [freqtStep.go, ih, List.length_cons, List.take_succ_cons]
    congr 1
    ring

theorem freqtStep_zero (x : K) (g : List K) :
    freqtStep (0 : K) 1 x g = (x :: g).take g.length := by
  match g with
  | [] => rfl
  | [g0] => simp [freqtStep]
  | g0 :: g1 :: rest2 =>
    simp only [freqtStep, freqtStep_go_zero, List.length_cons, List.take_succ_cons]
    congr 1
    · ring
    · congr 1; ring

private theorem take_append_take {β : Type} (a b : List β) (n : Nat) :
    (a ++ b.take n).take n = (a ++ b).take n := by
  rw [List.take_append, List.take_append, List.take_take]
  congr 2
  omega

theorem freqt_fold_zero (xs g : List K) :
    xs.foldl (fun g x => freqtStep (0 : K) 1 x g) g = (xs.reverse ++ g).take g.length := by
  induction xs generalizing g with
  | nil => simp
  | cons x xs ih =>
    rw [List.foldl_cons, ih, freqtStep_zero]
    have hl : ((x :: g).take g.length).length = g.length := by simp
    rw [hl, take_append_take]
    simp

/-- at `α = 0` the transform copies its input in the order it is fed: as is with the repaired order
    (`Fix.freqtOrder`), reversed with the order of the pinned commit -/
theorem freqt_zero (fo : Bool) (c : List K) (m2 : Nat) :
    freqt fo c m2 0 = ((if fo then c else c.reverse) ++ List.replicate (m2 + 1) 0).take (m2 + 1) := by
  unfold freqt
  have h1 : (1 : K) - 0 * 0 = 1 := by ring
  simp only [h1]
  rw [freqt_fold_zero, List.length_replicate]
  cases fo <;> simp

private theorem pair_fold_range (f g : Nat → K) (a b : K) (n : Nat) :
    (List.range n).foldl (fun (acc : K × K) k0 => (acc.1 + f k0, acc.2 + g k0)) (a, b) =
      (a + ∑ k ∈ Finset.range n, f k, b + ∑ k ∈ Finset.range n, g k) := by
  revert n
  refine foldl_range_eq _ _ _ ?_ fun n => ?_
  · rw [Finset.sum_range_zero, Finset.sum_range_zero, add_zero, add_zero]
  · rw [Finset.sum_range_succ, Finset.sum_range_succ, add_assoc, add_assoc]

private theorem getD_take_of_lt (c : List K) (n j : Nat) (h : j < n) : (c.take n).getD j 0 = c.getD j 0 := by
  simp [List.getD_eq_getElem?_getD, h]

/-- The summand `c[k]·c[i+1−k]` is symmetric under `k ↦ i+1−k` (`sum_range_reflect`), so `Σ (i+1−k)·… = Σ k·…`: with
    equal γ the correction `(g·ss2 − g·ss1)/i` of `gc2gc` vanishes. -/
theorem gc2gc_sums_symm (c : List K) (i : Nat) :
    ∑ k0 ∈ Finset.range i, ((i + 1 - (k0 + 1) : Nat) : K) * (c.getD (k0 + 1) 0 * (c.take (i + 1)).getD (i + 1 - (k0 + 1)) 0) =
    ∑ k0 ∈ Finset.range i, ((k0 + 1 : Nat) : K) * (c.getD (k0 + 1) 0 * (c.take (i + 1)).getD (i + 1 - (k0 + 1)) 0) := by
  rw [← Finset.sum_range_reflect]
  apply Finset.sum_congr rfl
  intro j hj
  have hj' : j < i := Finset.mem_range.1 hj
  have e1 : i + 1 - (i - 1 - j + 1) = j + 1 := by omega
  have e2 : i - 1 - j + 1 = i + 1 - (j + 1) := by omega
  rw [e1, e2, getD_take_of_lt c (i + 1) (j + 1) (by omega),
    getD_take_of_lt c (i + 1) (i + 1 - (j + 1)) (by omega)]
  ring

/-- the body of the outer loop of `gc2gc` -/
def gc2gcStep (c1 : List K) (g1 g2 : K) (c2 : List K) (i0 : Nat) : List K :=
  let i := i0 + 1
  let (ss1, ss2) := (List.range (min c1.length i - 1)).foldl (fun (acc : K × K) k0 =>
      let k := k0 + 1
      let mk := i - k
      let cc := c1.getD k 0 * c2.getD mk 0
      (acc.1 + (mk : K) * cc, acc.2 + (k : K) * cc)) (0, 0)
  let t := (g2 * ss2 - g1 * ss1) / (i : K)
  c2 ++ [if i < c1.length then c1.getD i 0 + t else t]

theorem gc2gc_eq (c1 : List K) (g1 : K) (m2 : Nat) (g2 : K) :
    gc2gc c1 g1 m2 g2 = (List.range m2).foldl (gc2gcStep c1 g1 g2) [c1.getD 0 0] := rfl

theorem gc2gc_step (c : List K) (g : K) (i : Nat) (hi : i + 1 < c.length) :
    gc2gcStep c g g (c.take (i + 1)) i = c.take (i + 2) := by
  have hmin : min c.length (i + 1) - 1 = i := by omega
  simp only [gc2gcStep, hmin, hi, if_true]
  rw [pair_fold_range
    (fun k0 => ((i + 1 - (k0 + 1) : Nat) : K) * (c.getD (k0 + 1) 0 * (c.take (i + 1)).getD (i + 1 - (k0 + 1)) 0))
    (fun k0 => ((k0 + 1 : Nat) : K) * (c.getD (k0 + 1) 0 * (c.take (i + 1)).getD (i + 1 - (k0 + 1)) 0))]
  simp only [gc2gc_sums_symm, zero_add, sub_self, zero_div, add_zero]
  rw [List.take_add_one (i := i + 1)]
  simp [List.getD_eq_getElem?_getD, hi]

theorem gc2gc_length (c1 : List K) (g1 : K) (m2 : Nat) (g2 : K) : (gc2gc c1 g1 m2 g2).length = m2 + 1 := by
  rw [gc2gc, foldl_measure_succ List.length _ (fun _ _ => List.length_append), List.length_range, List.length_singleton,
    Nat.add_comm]

section
variable [LinearOrder K] [Transc K]

theorem ignorm_length (gamma : K) (c : List K) : (ignorm gamma c).length = c.length := by
  cases c with
  | nil => rfl
  | cons c0 rest =>
    simp only [ignorm]
    split <;> simp

theorem gnorm_cons (gamma : K) (hg : gamma ≠ 0) (c0 : K) (rest : List K) :
    gnorm gamma (c0 :: rest) =
      Transc.pow (1 + gamma * c0) (1 / gamma) :: rest.map fun x => x / (1 + gamma * c0) := by
  simp only [gnorm, isZeroS_of_ne hg, Bool.not_false, if_true]

theorem ignorm_cons (gamma : K) (hg : gamma ≠ 0) (c0 : K) (rest : List K) :
    ignorm gamma (c0 :: rest) =
      (Transc.pow c0 gamma - 1) / gamma :: rest.map fun x => x * Transc.pow c0 gamma := by
  simp only [ignorm, isZeroS_of_ne hg, Bool.not_false, if_true]

end

/-! ### over the scalar context of `Jb/Props` -/

section
variable [LinearOrder K] [IsStrictOrderedRing K] [Transc K] [Consts K]
set_option linter.unusedSectionVars false

theorem b2mc_mc2b (alpha : K) (c : List K) : b2mc alpha (mc2b alpha c) = c := by
  induction c with
  | nil => rw [mc2b_nil]; rfl
  | cons c cs ih => rw [mc2b_cons, b2mc_cons, ih, sub_add_cancel]

theorem mc2b_b2mc (alpha : K) (b : List K) : mc2b alpha (b2mc alpha b) = b := by
  induction b with
  | nil => exact mc2b_nil alpha
  | cons b l ih => rw [b2mc_cons, mc2b_cons, ih, add_sub_cancel_right]

theorem freqt_zero_id (c : List K) (hc : c ≠ []) : freqt true c (c.length - 1) 0 = c := by
  have hl : c.length - 1 + 1 = c.length := Nat.sub_add_cancel (List.length_pos_of_ne_nil hc)
  rw [freqt_zero, hl, if_pos rfl, List.take_left']
  rfl

theorem gc2gc_same_gamma (c : List K) (g : K) (m : Nat) (hm : m < c.length) :
    gc2gc c g m g = c.take (m + 1) := by
  rw [gc2gc_eq]
  induction m with
  | zero =>
    cases c with
    | nil => simp at hm
    | cons a t => rfl
  | succ i ih =>
    rw [List.range_succ, List.foldl_append, ih (by omega), List.foldl_cons, List.foldl_nil]
    exact gc2gc_step c g i hm

theorem ignorm_gnorm (gamma : K) (hg : gamma ≠ 0) (c0 : K) (rest : List K)
    (hk : 1 + gamma * c0 ≠ 0)
    (hpow : Transc.pow (Transc.pow (1 + gamma * c0) (1 / gamma)) gamma = 1 + gamma * c0) :
    ignorm gamma (gnorm gamma (c0 :: rest)) = c0 :: rest := by
  rw [gnorm_cons gamma hg, ignorm_cons gamma hg, hpow, List.map_map]
  congr 1
  · rw [add_sub_cancel_left, mul_div_cancel_left₀ _ hg]
  · exact (List.map_congr_left fun x _ => div_mul_cancel₀ x hk).trans (List.map_id _)

end

end Jb
