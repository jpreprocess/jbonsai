/-
  C06, structural half of the spectral clause: the MLSA filter is two Padé stages in cascade
  (`mlsaRun_eq_df2Run_df1Run`: they touch disjoint parts of the state), and each stage realises the Padé rational
  function of its basic filter,
      stage 1:  F₁ = c₁·Φ₁                (`basic1`),
      stage 2:  F₂ = Σ_{k≥2} c_k Φ_k       (`basic2`: the code's own warped FIR `fir`, fed with the delayed signal).
  Both stages keep six taps (`d12`, `d22`).  Along a run, tap 0 holds the inner signal `u`, tap `i+1` holds the basic
  filter applied to tap `i` (the loop reads the OLD tap `i`: that is the one-sample delay inside `F`), and at every
  sample the taps satisfy  Σ (−1)^i p_i tap_i = x,  Σ p_i tap_i = y.  Hence `P(−F) u = x` and `y = P(F) u`: the
  transfer function of the stage is `P(F(z)) / P(−F(z))` — exactly, for every input, from rest.
-/
import Jb.Proofs.Signal

namespace Jb

variable {K : Type} [Field K]

/-! ### factorisation `mlsaDf = mlsaDf2 ∘ mlsaDf1` over a signal -/

theorem df1Step_congr {s t : MlsaSt K} (h : s.d12 = t.d12) (alpha : K) (c : List K) :
    df1Step s alpha c = df1Step t alpha c := by
  unfold df1Step; rw [h]

theorem df2Step_congr {s t : MlsaSt K} (h : s.d22 = t.d22) (alpha : K) (c : List K) :
    df2Step s alpha c = df2Step t alpha c := by
  unfold df2Step; rw [h]

/-- `df1` reads and writes `d11`, `d12` only -/
theorem mlsaDf1_congr (s t : MlsaSt K) (x alpha : K) (c : List K)
    (h11 : s.d11 = t.d11) (h12 : s.d12 = t.d12) :
    (mlsaDf1 s x alpha c).1 = (mlsaDf1 t x alpha c).1 ∧
      (mlsaDf1 s x alpha c).2.d11 = (mlsaDf1 t x alpha c).2.d11 ∧
      (mlsaDf1 s x alpha c).2.d12 = (mlsaDf1 t x alpha c).2.d12 := by
  simp only [mlsaDf1_fold, df1Step_congr h12, h11, h12, and_self]

/-- `df2` reads and writes `d21`, `d22` only -/
theorem mlsaDf2_congr (s t : MlsaSt K) (x alpha : K) (c : List K)
    (h21 : s.d21 = t.d21) (h22 : s.d22 = t.d22) :
    (mlsaDf2 s x alpha c).1 = (mlsaDf2 t x alpha c).1 ∧
      (mlsaDf2 s x alpha c).2.d21 = (mlsaDf2 t x alpha c).2.d21 ∧
      (mlsaDf2 s x alpha c).2.d22 = (mlsaDf2 t x alpha c).2.d22 := by
  simp only [mlsaDf2_fold, df2Step_congr h22, h21, h22, and_self]

theorem mlsaRun_eq_df2Run_df1Run (alpha : K) (c : List K) (xs : List K) (st s1 s2 : MlsaSt K)
    (h11 : st.d11 = s1.d11) (h12 : st.d12 = s1.d12) (h21 : st.d21 = s2.d21) (h22 : st.d22 = s2.d22) :
    mlsaRun alpha c st xs = df2Run alpha c s2 (df1Run alpha c s1 xs) := by
  induction xs generalizing st s1 s2 with
  | nil => rfl
  | cons x xs ih =>
    have e1 := mlsaDf1_congr st s1 x alpha c h11 h12
    have sh1 := mlsaDf1_shape st x alpha c
    have e2 := mlsaDf2_congr (mlsaDf1 st x alpha c).2 s2 (mlsaDf1 st x alpha c).1 alpha c
      (sh1.2.2.1.trans h21) (sh1.2.2.2.trans h22)
    have sh2 := mlsaDf2_shape (mlsaDf1 st x alpha c).2 (mlsaDf1 st x alpha c).1 alpha c
    simp only [mlsaRun, df1Run, df2Run, mlsaDf_eq]
    rw [← e1.1, e2.1]
    congr 1
    exact ih _ _ _ (sh2.1.trans e1.2.1) (sh2.2.1.trans e1.2.2) e2.2.1 e2.2.2

/-! ### six taps and the Padé identities, for any one-sample function -/

/-- the signal that `tap` reads off the state along the run of `f` -/
def tapSig {σ : Type} (f : σ → K → K × σ) (tap : σ → K) : σ → List K → List K
  | _, [] => []
  | st, x :: xs => tap (f st x).2 :: tapSig f tap (f st x).2 xs

/-- Let the taps satisfy the Padé identities `Σ (−1)^i p_i tap_i = x`, `Σ p_i tap_i = y` after every sample, and let
    the signal in tap `i+1` be `F` of the signal in tap `i`.  Then `P(−F) u = x` and `P(F) u = y` for the signal `u`
    in tap 0. -/
theorem tapSig_pade {σ : Type} {f : σ → K → K × σ} {run : σ → List K → List K}
    (run_cons : ∀ s x xs, run s (x :: xs) = (f s x).1 :: run (f s x).2 xs)
    (tap : Nat → σ → K) (Inv : σ → Prop)
    (hstep : ∀ st x, Inv st → Inv (f st x).2 ∧
      (Finset.range 6).sum (fun i => (-1 : K) ^ i * (padeCoef : List K).getD i 0 * tap i (f st x).2) = x ∧
      (Finset.range 6).sum (fun i => (1 : K) ^ i * (padeCoef : List K).getD i 0 * tap i (f st x).2) = (f st x).1)
    (F : List K → List K) (st : σ) (h : Inv st) (xs : List K)
    (hF : ∀ i < 5, tapSig f (tap (i + 1)) st xs = F (tapSig f (tap i) st xs)) (n : Nat) (hn : n < xs.length) :
    padeApply (-1) F (tapSig f (tap 0) st xs) n = xs.getD n 0 ∧
    padeApply 1 F (tapSig f (tap 0) st xs) n = (run st xs).getD n 0 := by
  have hpow : ∀ i, i < 6 → opPow F i (tapSig f (tap 0) st xs) = tapSig f (tap i) st xs := fun i => by
    induction i with
    | zero => intro _; rfl
    | succ i ih => intro hi; rw [opPow, ih (by omega), hF i (by omega)]
  have hsum : ∀ s : K, padeApply s F (tapSig f (tap 0) st xs) n =
      (Finset.range 6).sum fun i => s ^ i * (padeCoef : List K).getD i 0 * (tapSig f (tap i) st xs).getD n 0 :=
    fun s => Finset.sum_congr rfl fun i hi => by rw [hpow i (Finset.mem_range.1 hi)]
  rw [hsum, hsum]
  clear hF hpow hsum
  induction xs generalizing st n with
  | nil => simp at hn
  | cons x xs ih =>
    cases n with
    | zero =>
      simp only [tapSig, run_cons, List.getD_cons_zero]
      exact (hstep st x h).2
    | succ n =>
      simp only [tapSig, run_cons, List.getD_cons_succ]
      exact ih _ (hstep st x h).1 n (by simpa using hn)

theorem length_six {β : Type} (l : List β) (h : l.length = 6) :
    ∃ a0 a1 a2 a3 a4 a5, l = [a0, a1, a2, a3, a4, a5] := by
  match l, h with
  | [a0, a1, a2, a3, a4, a5], _ => exact ⟨a0, a1, a2, a3, a4, a5, rfl⟩

/-- the Padé identities of six taps `x', t₁ … t₅` where `x' = x + Σ_{i≥1} (−1)^{i+1} p_i t_i`, in the shape in
    which both loops leave them -/
theorem pade_sums (x t1 t2 t3 t4 t5 : K) :
    let p : List K := padeCoef
    let x' := x + t5 * p.getD 5 0 + -(t4 * p.getD 4 0) + t3 * p.getD 3 0 + -(t2 * p.getD 2 0) + t1 * p.getD 1 0
    let out := 0 + t5 * p.getD 5 0 + t4 * p.getD 4 0 + t3 * p.getD 3 0 + t2 * p.getD 2 0 + t1 * p.getD 1 0
    (Finset.range 6).sum (fun i => (-1 : K) ^ i * p.getD i 0 * [x', t1, t2, t3, t4, t5].getD i 0) = x ∧
    (Finset.range 6).sum (fun i => (1 : K) ^ i * p.getD i 0 * [x', t1, t2, t3, t4, t5].getD i 0) = x' + out := by
  have p0 : (padeCoef : List K).getD 0 0 = 1 := rfl
  simp only [Finset.sum_range_succ, Finset.sum_range_zero, List.getD_cons_succ, List.getD_cons_zero, p0]
  constructor <;> ring

/-! ### stage 1: the one-pole with state `d11[i+1]` between tap `i` and tap `i+1` -/

/-- the inner signal of `df1`: the value stored in `d12[0]` at each sample -/
def df1Inner (alpha : K) (c : List K) : MlsaSt K → List K → List K
  | _, [] => []
  | st, x :: xs => let r := mlsaDf1 st x alpha c; r.2.d12.getD 0 0 :: df1Inner alpha c r.2 xs

/-- the signal in tap `i` (`d12[i]`) of `df1` along a run -/
abbrev df1Tap (alpha : K) (c : List K) (i : Nat) : MlsaSt K → List K → List K :=
  tapSig (fun st x => mlsaDf1 st x alpha c) (fun st => st.d12.getD i 0)

theorem df1Inner_eq (alpha : K) (c : List K) (st : MlsaSt K) (xs : List K) :
    df1Inner alpha c st xs = df1Tap alpha c 0 st xs := by
  induction xs generalizing st with
  | nil => rfl
  | cons x xs ih => simp only [df1Inner, tapSig, ih]

theorem mlsaDf1_explicit (b0 b1 b2 b3 b4 b5 a0 a1 a2 a3 a4 a5 : K) (d21 : List (List K)) (d22 : List K)
    (x alpha : K) (c : List K) :
    mlsaDf1 ⟨[b0, b1, b2, b3, b4, b5], [a0, a1, a2, a3, a4, a5], d21, d22⟩ x alpha c =
      (let aa := 1 - alpha * alpha
       let c1 := c.getD 1 0
       let p : List K := padeCoef
       let w5 := aa * a4 + alpha * b5
       let w4 := aa * a3 + alpha * b4
       let w3 := aa * a2 + alpha * b3
       let w2 := aa * a1 + alpha * b2
       let w1 := aa * a0 + alpha * b1
       let x' := x + w5 * c1 * p.getD 5 0 + -(w4 * c1 * p.getD 4 0) + w3 * c1 * p.getD 3 0
                   + -(w2 * c1 * p.getD 2 0) + w1 * c1 * p.getD 1 0
       let out := 0 + w5 * c1 * p.getD 5 0 + w4 * c1 * p.getD 4 0 + w3 * c1 * p.getD 3 0
                   + w2 * c1 * p.getD 2 0 + w1 * c1 * p.getD 1 0
       (x' + out, ⟨[b0, w1, w2, w3, w4, w5], [x', w1 * c1, w2 * c1, w3 * c1, w4 * c1, w5 * c1], d21, d22⟩)) := by
  simp only [mlsaDf1_fold, List.foldl_cons, List.foldl_nil, df1Step, List.getD_cons_succ, List.getD_cons_zero,
    List.set_cons_succ, List.set_cons_zero]
  rfl

/-- tap `i+1` of `df1` after one sample is the basic filter's step on the old tap `i`; `d11[i+1]` is its state -/
theorem mlsaDf1_tap_succ (st : MlsaSt K) (h : MlsaSt.SixTaps st) (x alpha : K) (c : List K) (i : Nat) (hi : i < 5) :
    (mlsaDf1 st x alpha c).2.d11.getD (i + 1) 0 =
        (1 - alpha * alpha) * st.d12.getD i 0 + alpha * st.d11.getD (i + 1) 0 ∧
    (mlsaDf1 st x alpha c).2.d12.getD (i + 1) 0 = c.getD 1 0 * (mlsaDf1 st x alpha c).2.d11.getD (i + 1) 0 := by
  obtain ⟨d11, d12, d21, d22⟩ := st
  obtain ⟨b0, b1, b2, b3, b4, b5, rfl⟩ := length_six d11 h.1
  obtain ⟨a0, a1, a2, a3, a4, a5, rfl⟩ := length_six d12 h.2.1
  rw [mlsaDf1_explicit]
  have : i = 0 ∨ i = 1 ∨ i = 2 ∨ i = 3 ∨ i = 4 := by omega
  rcases this with rfl | rfl | rfl | rfl | rfl <;> exact ⟨rfl, mul_comm _ _⟩

theorem df1_step_pade (st : MlsaSt K) (x alpha : K) (c : List K) (h : MlsaSt.SixTaps st) :
    MlsaSt.SixTaps (mlsaDf1 st x alpha c).2 ∧
    (Finset.range 6).sum (fun i => (-1 : K) ^ i * (padeCoef : List K).getD i 0 *
        (mlsaDf1 st x alpha c).2.d12.getD i 0) = x ∧
    (Finset.range 6).sum (fun i => (1 : K) ^ i * (padeCoef : List K).getD i 0 *
        (mlsaDf1 st x alpha c).2.d12.getD i 0) = (mlsaDf1 st x alpha c).1 := by
  refine ⟨h.df1 x alpha c, ?_⟩
  obtain ⟨d11, d12, d21, d22⟩ := st
  obtain ⟨b0, b1, b2, b3, b4, b5, rfl⟩ := length_six d11 h.1
  obtain ⟨a0, a1, a2, a3, a4, a5, rfl⟩ := length_six d12 h.2.1
  rw [mlsaDf1_explicit]
  exact pade_sums x _ _ _ _ _

/-- one-sample delay started with `u[−1] = a` -/
def delayFrom (a : K) (us : List K) : List K := (a :: us).take us.length

omit [Field K] in
theorem delayFrom_cons (a u : K) (us : List K) : delayFrom a (u :: us) = a :: delayFrom u us := by
  simp only [delayFrom, List.length_cons, List.take_succ_cons]

/-- each tap signal of `df1` is the basic filter `c₁·Φ₁` of the previous one, started from the state -/
theorem df1Tap_succ (alpha : K) (c : List K) (i : Nat) (hi : i < 5) (st : MlsaSt K) (h : st.SixTaps) (xs : List K) :
    df1Tap alpha c (i + 1) st xs =
      (onePoleFrom alpha (st.d11.getD (i + 1) 0) (delayFrom (st.d12.getD i 0) (df1Tap alpha c i st xs))).map
        (c.getD 1 0 * ·) := by
  induction xs generalizing st with
  | nil => rfl
  | cons x xs ih =>
    obtain ⟨e1, e2⟩ := mlsaDf1_tap_succ st h x alpha c i hi
    simp only [df1Tap, tapSig, delayFrom_cons, onePoleFrom, List.map_cons] at ih ⊢
    rw [ih _ (h.df1 x alpha c), e2, e1]

theorem df1Tap_succ_rest (alpha : K) (c : List K) (nmcp : Nat) (xs : List K) (i : Nat) (hi : i < 5) :
    df1Tap alpha c (i + 1) (MlsaSt.init nmcp) xs = basic1 alpha c (df1Tap alpha c i (MlsaSt.init nmcp) xs) := by
  rw [df1Tap_succ alpha c i hi _ (.init nmcp)]
  simp only [MlsaSt.init, getD_replicate_default]
  rfl

/-! ### stage 2: as stage 1, with `fir` and its delay line `d21[i]` in place of the one-pole and `d11[i+1]` -/

/-- the inner signal of `df2`: the value stored in `d22[0]` at each sample -/
def df2Inner (alpha : K) (c : List K) : MlsaSt K → List K → List K
  | _, [] => []
  | st, x :: xs => let r := mlsaDf2 st x alpha c; r.2.d22.getD 0 0 :: df2Inner alpha c r.2 xs

/-- the signal in tap `i` (`d22[i]`) of `df2` along a run -/
abbrev df2Tap (alpha : K) (c : List K) (i : Nat) : MlsaSt K → List K → List K :=
  tapSig (fun st x => mlsaDf2 st x alpha c) (fun st => st.d22.getD i 0)

theorem df2Inner_eq (alpha : K) (c : List K) (st : MlsaSt K) (xs : List K) :
    df2Inner alpha c st xs = df2Tap alpha c 0 st xs := by
  induction xs generalizing st with
  | nil => rfl
  | cons x xs ih => simp only [df2Inner, tapSig, ih]

theorem mlsaDf2_explicit (d11 d12 : List K) (a0 a1 a2 a3 a4 a5 : List K) (b0 b1 b2 b3 b4 b5 : K)
    (x alpha : K) (c : List K) :
    mlsaDf2 ⟨d11, d12, [a0, a1, a2, a3, a4, a5], [b0, b1, b2, b3, b4, b5]⟩ x alpha c =
      (let f0 := fir a0 b0 alpha c
       let f1 := fir a1 b1 alpha c
       let f2 := fir a2 b2 alpha c
       let f3 := fir a3 b3 alpha c
       let f4 := fir a4 b4 alpha c
       let p : List K := padeCoef
       let x' := x + f4.1 * p.getD 5 0 + -(f3.1 * p.getD 4 0) + f2.1 * p.getD 3 0 + -(f1.1 * p.getD 2 0)
          + f0.1 * p.getD 1 0
       let out := 0 + f4.1 * p.getD 5 0 + f3.1 * p.getD 4 0 + f2.1 * p.getD 3 0 + f1.1 * p.getD 2 0
          + f0.1 * p.getD 1 0
       (x' + out, ⟨d11, d12, [f0.2, f1.2, f2.2, f3.2, f4.2, a5], [x', f0.1, f1.1, f2.1, f3.1, f4.1]⟩)) := by
  simp only [mlsaDf2_fold, List.foldl_cons, List.foldl_nil, df2Step, List.getD_cons_succ, List.getD_cons_zero,
    List.set_cons_succ, List.set_cons_zero]
  rfl

/-- tap `i+1` of `df2` after one sample is the FIR of the old tap `i`; `d21[i]` is its delay line -/
theorem mlsaDf2_tap_succ (st : MlsaSt K) (h : MlsaSt.SixTaps st) (x alpha : K) (c : List K) (i : Nat) (hi : i < 5) :
    (mlsaDf2 st x alpha c).2.d22.getD (i + 1) 0 = (fir (st.d21.getD i []) (st.d22.getD i 0) alpha c).1 ∧
    (mlsaDf2 st x alpha c).2.d21.getD i [] = (fir (st.d21.getD i []) (st.d22.getD i 0) alpha c).2 := by
  obtain ⟨d11, d12, d21, d22⟩ := st
  obtain ⟨a0, a1, a2, a3, a4, a5, rfl⟩ := length_six d21 h.2.2.1
  obtain ⟨b0, b1, b2, b3, b4, b5, rfl⟩ := length_six d22 h.2.2.2
  rw [mlsaDf2_explicit]
  have : i = 0 ∨ i = 1 ∨ i = 2 ∨ i = 3 ∨ i = 4 := by omega
  rcases this with rfl | rfl | rfl | rfl | rfl <;> exact ⟨rfl, rfl⟩

theorem df2_step_pade (st : MlsaSt K) (x alpha : K) (c : List K) (h : MlsaSt.SixTaps st) :
    MlsaSt.SixTaps (mlsaDf2 st x alpha c).2 ∧
    (Finset.range 6).sum (fun i => (-1 : K) ^ i * (padeCoef : List K).getD i 0 *
        (mlsaDf2 st x alpha c).2.d22.getD i 0) = x ∧
    (Finset.range 6).sum (fun i => (1 : K) ^ i * (padeCoef : List K).getD i 0 *
        (mlsaDf2 st x alpha c).2.d22.getD i 0) = (mlsaDf2 st x alpha c).1 := by
  refine ⟨h.df2 x alpha c, ?_⟩
  obtain ⟨d11, d12, d21, d22⟩ := st
  obtain ⟨a0, a1, a2, a3, a4, a5, rfl⟩ := length_six d21 h.2.2.1
  obtain ⟨b0, b1, b2, b3, b4, b5, rfl⟩ := length_six d22 h.2.2.2
  rw [mlsaDf2_explicit]
  exact pade_sums x _ _ _ _ _

/-- `firRun` on the delayed signal, from delay line `d` and pending input `p` -/
def firDelayFrom (alpha : K) (c : List K) : List K → K → List K → List K
  | _, _, [] => []
  | d, p, u :: us => let r := fir d p alpha c; r.1 :: firDelayFrom alpha c r.2 u us

theorem basic2_eq (alpha : K) (c : List K) (nmcp : Nat) (us : List K) :
    basic2 alpha c nmcp us = firDelayFrom alpha c (List.replicate nmcp 0) 0 us := by
  unfold basic2 delay1
  generalize List.replicate nmcp (0 : K) = d
  generalize (0 : K) = p
  induction us generalizing d p with
  | nil => rfl
  | cons u us ih => simp only [List.length_cons, List.take_succ_cons, firRun, firDelayFrom, ih]

/-- each tap signal of `df2` is the delayed FIR of the previous one, started from the state -/
theorem df2Tap_succ (alpha : K) (c : List K) (i : Nat) (hi : i < 5) (st : MlsaSt K) (h : st.SixTaps) (xs : List K) :
    df2Tap alpha c (i + 1) st xs =
      firDelayFrom alpha c (st.d21.getD i []) (st.d22.getD i 0) (df2Tap alpha c i st xs) := by
  induction xs generalizing st with
  | nil => rfl
  | cons x xs ih =>
    obtain ⟨e1, e2⟩ := mlsaDf2_tap_succ st h x alpha c i hi
    simp only [df2Tap, tapSig, firDelayFrom] at ih ⊢
    rw [ih _ (h.df2 x alpha c), e1, e2]

theorem df2Tap_succ_rest (alpha : K) (c : List K) (nmcp : Nat) (xs : List K) (i : Nat) (hi : i < 5) :
    df2Tap alpha c (i + 1) (MlsaSt.init nmcp) xs =
      basic2 alpha c nmcp (df2Tap alpha c i (MlsaSt.init nmcp) xs) := by
  rw [df2Tap_succ alpha c i hi _ (.init nmcp), basic2_eq]
  rw [MlsaSt.init_d21_getD nmcp (Nat.lt_succ_of_lt hi)]
  simp only [MlsaSt.init, getD_replicate_default]

/-! ### over the scalar context of `Jb/Props` -/

section
variable [LinearOrder K] [IsStrictOrderedRing K] [Transc K] [Consts K]
set_option linter.unusedSectionVars false

theorem df1Inner_length (alpha : K) (c : List K) (st : MlsaSt K) (xs : List K) :
    (df1Inner alpha c st xs).length = xs.length := by
  induction xs generalizing st with
  | nil => rfl
  | cons x xs ih => simp only [df1Inner, List.length_cons, ih]

theorem df2Inner_length (alpha : K) (c : List K) (st : MlsaSt K) (xs : List K) :
    (df2Inner alpha c st xs).length = xs.length := by
  induction xs generalizing st with
  | nil => rfl
  | cons x xs ih => simp only [df2Inner, List.length_cons, ih]

end

end Jb
