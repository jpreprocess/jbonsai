/-
  Signals and the warped basis, shared by the transfer-function theorems of C06 / C13
  (`Jb/Proofs/Pade.lean`, `WarpFir.lean`, `WarpBasis.lean`, `Mglsa.lean`, `MglsaWarp.lean`, `LspWarp.lean`).

  A signal is a finite `List K` (sample 0 first); every operator below starts from rest (all delays zero),
  is causal and keeps the length.  In z-transform terms, with `α = alpha`:

      delay1      z⁻¹
      onePoleRun  (1 − α²) / (1 − α z⁻¹)
      allpassRun  (z⁻¹ − α) / (1 − α z⁻¹)                      =: z̃⁻¹  (the first-order all-pass of the warping)
      warpChain k (1 − α²)/(1 − α z⁻¹) · z̃^{-(k−1)}             (k ≥ 1; the k-th cell of the delay line of `fir`)
      warpBasis k (1 − α²) z⁻¹/(1 − α z⁻¹) · z̃^{-(k−1)}  = Φ_k(z) (k ≥ 1; the basis of the MLSA/MGLSA filters)

  The run-forms of the filter stages (`df1Run`, `df2Run`, `firRun`, `dffRun`) iterate the model's own one-sample
  functions (`mlsaDf1`, `mlsaDf2`, `fir`, `mglsaDff` of `Jb/Model/Vocoder.lean`) over a signal.
-/
import Jb.Proofs.MlsaLinear

set_option linter.unusedSectionVars false

namespace Jb

variable {K : Type} [Field K] [LinearOrder K] [IsStrictOrderedRing K] [Transc K] [Consts K]

/-- one-sample delay from rest: `[0, u₀, …, u_{n−2}]` -/
def delay1 (us : List K) : List K := (0 :: us).take us.length

/-- `w[n] = (1 − α²)·u[n] + α·w[n−1]`, started with `w[−1] = w` -/
def onePoleFrom (alpha : K) : K → List K → List K
  | _, [] => []
  | w, u :: us =>
    let w' := (1 - alpha * alpha) * u + alpha * w
    w' :: onePoleFrom alpha w' us

def onePoleRun (alpha : K) (us : List K) : List K := onePoleFrom alpha 0 us

/-- `y[n] = u[n−1] − α·u[n] + α·y[n−1]`, started with `u[−1] = up`, `y[−1] = yp` -/
def allpassFrom (alpha : K) : K → K → List K → List K
  | _, _, [] => []
  | up, yp, u :: us =>
    let y := up - alpha * u + alpha * yp
    y :: allpassFrom alpha u y us

def allpassRun (alpha : K) (us : List K) : List K := allpassFrom alpha 0 0 us

/-- cell `k ≥ 1` of the warped delay line fed with `us` (cell 0 is the input itself) -/
def warpChain (alpha : K) (us : List K) : Nat → List K
  | 0 => us
  | 1 => onePoleRun alpha us
  | k + 2 => allpassRun alpha (warpChain alpha us (k + 1))

/-- `Φ_k` applied to `us` (`k ≥ 1`): the delay line fed with the delayed signal -/
def warpBasis (alpha : K) (us : List K) (k : Nat) : List K := warpChain alpha (delay1 us) k

/-- `F^i` -/
def opPow (F : List K → List K) : Nat → List K → List K
  | 0, u => u
  | i + 1, u => F (opPow F i u)

/-- iterate the all-pass: `z̃^{-m}` -/
def allpassPow (alpha : K) (m : Nat) (us : List K) : List K := opPow (allpassRun alpha) m us

/-! ### run-forms of the model's one-sample functions -/

def df1Run (alpha : K) (c : List K) : MlsaSt K → List K → List K
  | _, [] => []
  | st, x :: xs => let r := mlsaDf1 st x alpha c; r.1 :: df1Run alpha c r.2 xs

def df2Run (alpha : K) (c : List K) : MlsaSt K → List K → List K
  | _, [] => []
  | st, x :: xs => let r := mlsaDf2 st x alpha c; r.1 :: df2Run alpha c r.2 xs

/-- the warped FIR `Df2::fir` over a signal, delay line `d` -/
def firRun (alpha : K) (c : List K) : List K → List K → List K
  | _, [] => []
  | d, x :: xs => let r := fir d x alpha c; r.1 :: firRun alpha c r.2 xs

/-- one MGLSA section over a signal, delay line `d` -/
def dffRun (alpha : K) (c : List K) : List K → List K → List K
  | _, [] => []
  | d, x :: xs => let r := mglsaDff d x alpha c; r.1 :: dffRun alpha c r.2 xs

/-- the basic filter of `df1`: `F₁(z) = c₁ · Φ₁(z)` -/
def basic1 (alpha : K) (c : List K) (us : List K) : List K :=
  (warpBasis alpha us 1).map (c.getD 1 0 * ·)

/-- the basic filter of `df2`: `F₂(z) = Σ_{k≥2} c_k Φ_k(z)`, realised by the code's own `fir` on the delayed signal -/
def basic2 (alpha : K) (c : List K) (nmcp : Nat) (us : List K) : List K :=
  firRun alpha c (List.replicate nmcp 0) (delay1 us)

/-- `Σ_{i ≤ 5} s^i · p_i · (F^i u)[n]` with `p` the Padé coefficients of the code (`s = 1`: numerator `P(F)`,
    `s = −1`: denominator `P(−F)`) -/
def padeApply (s : K) (F : List K → List K) (us : List K) (n : Nat) : K :=
  (Finset.range 6).sum fun i => s ^ i * (padeCoef : List K).getD i 0 * (opPow F i us).getD n 0

end Jb
