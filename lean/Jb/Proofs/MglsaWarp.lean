/-
  C13, structural half of the magnitude clause: one MGLSA section with coefficients `c` computes
  `y = x − Σ_{k≥1} c_k Φ_k(y)`,  i.e. its transfer function is `1 / (1 + Σ_{k≥1} c_k Φ_k(z))` with `Φ_k` the warped basis
  (the filter is the `stage`-fold iteration of the section: `mglsaRun_sections`).  For `alpha = 0` the basis is the plain
  delay and the section is the all-pole difference equation of `c[1..]`.
  (State reading: `d[0]` is the next value of `Φ₁(y)`, `d[k]` the last value of `Φ_k(y)`; inside the loop
  `d'[i] = d[i] + α·(d[i+1] − d'[i−1])` is the all-pass recursion `e_{k+1}[n] = e_k[n−1] − α·e_k[n] + α·e_{k+1}[n−1]`.)
-/
import Jb.Proofs.Mglsa

namespace Jb

variable {K : Type} [Field K]

theorem onePoleFrom_take (alpha w : K) (us : List K) (n : Nat) :
    onePoleFrom alpha w (us.take n) = (onePoleFrom alpha w us).take n :=
  run_take (f := fun w u => ((1 - alpha * alpha) * u + alpha * w, (1 - alpha * alpha) * u + alpha * w))
    (fun _ => rfl) (fun _ _ _ => rfl) w us n

/-- `Φ_{k+1}` applied to the output `ys` of a section whose delay line held `d` when `ys` began: the all-pass ladder
    of `chainFrom` (`WarpFir.lean`), one index down and over the delayed one-pole of `ys` -/
def basisFrom (alpha : K) (d ys : List K) : Nat → List K
  | 0 => (d.getD 0 0 :: onePoleFrom alpha (d.getD 0 0) ys).take ys.length
  | k + 1 => allpassFrom alpha (d.getD (k + 1) 0) (d.getD (k + 2) 0) (basisFrom alpha d ys k)

theorem basisFrom_rest (alpha : K) (m : Nat) (ys : List K) (k : Nat) :
    basisFrom alpha (List.replicate m 0) ys k = warpBasis alpha ys (k + 1) := by
  induction k with
  | zero =>
    have h0 : onePoleFrom alpha 0 (0 :: ys) = 0 :: onePoleFrom alpha 0 ys := by simp [onePoleFrom]
    simp only [basisFrom, getD_replicate_default, ← h0, ← onePoleFrom_take]
    rfl
  | succ k ih =>
    simp only [basisFrom, getD_replicate_default, ih]
    rfl

/-- after one sample the basis streams continue from the new state, and their heads are the loop values -/
theorem basisFrom_cons (alpha : K) (c d : List K) (hd : d.length = c.length) (hc : 2 ≤ c.length) (x : K) (ys : List K)
    (k : Nat) (hk : k + 1 < c.length) :
    basisFrom alpha d ((mglsaDff d x alpha c).1 :: ys) k =
      dffG d alpha k :: basisFrom alpha (mglsaDff d x alpha c).2 ys k := by
  have hget := mglsaDff_getD_succ d x alpha c hd hc
  induction k with
  | zero =>
    have h0 : (mglsaDff d x alpha c).2.getD 0 0 =
        (1 - alpha * alpha) * (mglsaDff d x alpha c).1 + alpha * d.getD 0 0 := by
      rw [mglsaDff_step d x alpha c hd hc, List.getD_cons_zero, add_comm]
    simp only [basisFrom, onePoleFrom, List.length_cons, List.take_succ_cons, h0, dffG]
  | succ k ih =>
    have e : d.getD (k + 1) 0 - alpha * dffG d alpha k + alpha * d.getD (k + 2) 0 = dffG d alpha (k + 1) := by
      simp only [dffG]; ring
    simp only [basisFrom, ih (by omega), allpassFrom, hget k (by omega), hget (k + 1) hk, e]

/-- **one section from any state: `x = y + Σ_{k=1}^{m} c_k Φ_k(y)`**, `Φ_k(y)` continued from the delay line `d` -/
theorem dffRun_basis (alpha : K) (c : List K) (hc : 2 ≤ c.length) (d : List K) (hd : d.length = c.length)
    (xs : List K) (n : Nat) (hn : n < xs.length) :
    xs.getD n 0 = (dffRun alpha c d xs).getD n 0 +
      (Finset.range (c.length - 1)).sum fun k =>
        c.getD (k + 1) 0 * (basisFrom alpha d (dffRun alpha c d xs) k).getD n 0 := by
  induction xs generalizing d n with
  | nil => simp at hn
  | cons x xs ih =>
    have hB : ∀ k ∈ Finset.range (c.length - 1), basisFrom alpha d (dffRun alpha c d (x :: xs)) k =
        dffG d alpha k :: basisFrom alpha (mglsaDff d x alpha c).2 (dffRun alpha c (mglsaDff d x alpha c).2 xs) k :=
      fun k hk => basisFrom_cons alpha c d hd hc x _ k (by have := Finset.mem_range.1 hk; omega)
    rw [Finset.sum_congr rfl fun k hk => by rw [hB k hk]]
    cases n with
    | zero =>
      simp only [dffRun, List.getD_cons_zero]
      rw [mglsaDff_step d x alpha c hd hc]
      simp only [mul_comm (c.getD _ 0), sub_add_cancel]
    | succ n =>
      simp only [dffRun, List.getD_cons_succ]
      exact ih _ (mglsaDff_length d x alpha c hd hc) n (by simpa using hn)

theorem dffRun_warp (alpha : K) (c : List K) (hc : 2 ≤ c.length) (xs : List K) (n : Nat) (hn : n < xs.length) :
    xs.getD n 0 = (dffRun alpha c (List.replicate c.length 0) xs).getD n 0 +
      (Finset.Ico 1 c.length).sum fun k =>
        c.getD k 0 * (warpBasis alpha (dffRun alpha c (List.replicate c.length 0) xs) k).getD n 0 := by
  have h := dffRun_basis alpha c hc (List.replicate c.length 0) (by simp) xs n hn
  simp only [basisFrom_rest] at h
  rw [Finset.sum_Ico_eq_sum_range]
  simpa only [Nat.add_comm 1] using h

/-- the all-pole difference equation `y[n] = x[n] − Σ_k a[k-1]·y[n−k]`, run over a signal from rest -/
def allPoleRun (a : List K) (xs : List K) : List K :=
  (xs.foldl (fun (hist : List K) x => (x - ((a.zip hist).map fun p => p.1 * p.2).sum) :: hist) []).reverse

theorem dffG_alpha_zero (d : List K) (i : Nat) : dffG d 0 i = d.getD i 0 := by
  cases i with
  | zero => rfl
  | succ i => rw [dffG, zero_mul, add_zero]

/-- at `alpha = 0` one sample pushes the output onto the delay line -/
theorem mglsaDff_alpha_zero (d : List K) (x : K) (c : List K) (hd : d.length = c.length) (hc : 2 ≤ c.length) :
    mglsaDff d x 0 c =
      (x - ∑ i ∈ Finset.range (c.length - 1), d.getD i 0 * c.getD (i + 1) 0,
        (x - ∑ i ∈ Finset.range (c.length - 1), d.getD i 0 * c.getD (i + 1) 0) ::
          (List.range (c.length - 1)).map fun i => d.getD i 0) := by
  rw [mglsaDff_step d x 0 c hd hc, funext (dffG_alpha_zero d), zero_mul, zero_add, mul_zero, sub_zero, one_mul]

theorem zip_mul_sum (a b : List K) :
    ((a.zip b).map fun p => p.1 * p.2).sum = ∑ i ∈ Finset.range a.length, a.getD i 0 * b.getD i 0 := by
  induction a generalizing b with
  | nil => rfl
  | cons a0 a ih =>
    cases b with
    | nil => exact (Finset.sum_eq_zero fun i _ => by rw [List.getD_nil, mul_zero]).symm
    | cons b0 b =>
      rw [List.zip_cons_cons, List.map_cons, List.sum_cons, ih, List.length_cons, Finset.sum_range_succ', add_comm]
      rfl

/-- at `alpha = 0` the delay line holds the past outputs: with `hist` the outputs so far (most recent first) and
    `d` its first `c.length` entries (zero-padded), the section continues the difference equation -/
theorem dffRun_alpha_zero (c : List K) (hc : 2 ≤ c.length) (xs d hist : List K)
    (hd : d.length = c.length) (h : ∀ i, i < c.length → d.getD i 0 = hist.getD i 0) :
    (dffRun 0 c d xs).reverse ++ hist =
      xs.foldl (fun (hist : List K) x => (x - ((c.tail.zip hist).map fun p => p.1 * p.2).sum) :: hist) hist := by
  induction xs generalizing d hist with
  | nil => rfl
  | cons x xs ih =>
    have hS : (∑ i ∈ Finset.range (c.length - 1), d.getD i 0 * c.getD (i + 1) 0) =
        ((c.tail.zip hist).map fun p => p.1 * p.2).sum := by
      rw [zip_mul_sum, List.length_tail]
      refine Finset.sum_congr rfl fun i hi => ?_
      rw [h i (by have := Finset.mem_range.1 hi; omega), mul_comm, getD_tail]
    rw [dffRun, List.foldl_cons, List.reverse_cons, List.append_assoc, List.singleton_append,
      mglsaDff_alpha_zero d x c hd hc, hS]
    refine ih _ _ (by rw [List.length_cons, List.length_map, List.length_range]; omega) fun i hi => ?_
    cases i with
    | zero => rfl
    | succ i =>
      rw [List.getD_cons_succ, List.getD_cons_succ, getD_map_range _ (by omega), h i (by omega)]

theorem dffRun_allpole (c : List K) (hc : 2 ≤ c.length) (xs : List K) :
    dffRun 0 c (List.replicate c.length 0) xs = allPoleRun c.tail xs := by
  have h := dffRun_alpha_zero c hc xs (List.replicate c.length 0) [] (by simp)
    fun i _ => by rw [getD_replicate_default, List.getD_nil]
  rw [List.append_nil] at h
  rw [allPoleRun, ← h, List.reverse_reverse]

end Jb
