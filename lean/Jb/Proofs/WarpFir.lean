/-
  C06: the warped FIR `Df2::fir` is `Σ_{i≥2} c_i · (cell i of the warped delay line)`, and cell `i` is the first-order
  section followed by `i − 1` all-pass sections: in z-transforms `(1−α²)/(1−αz⁻¹) · z̃^{-(i−1)}`.
  (The code computes the cells with a carry, `dnew[i] = α·d[i] + carry`, `carry' = (1−α²)·d[i] − α·carry`;
  eliminating the carry gives `dnew[j+1] = d[j] − α·dnew[j] + α·d[j+1]`, the all-pass recurrence: `firCells_getD_succ`.)
-/
import Jb.Proofs.Signal

namespace Jb

variable {K : Type} [Field K]

theorem firCells_getD_succ (alpha cr : K) (l : List K) (j : Nat) (h : j + 1 < l.length) :
    (firCells alpha cr l).getD (j + 1) 0 =
      alpha * l.getD (j + 1) 0 + l.getD j 0 - alpha * (firCells alpha cr l).getD j 0 := by
  induction l generalizing cr j with
  | nil => simp at h
  | cons a l ih =>
    cases j with
    | zero =>
      cases l with
      | nil => simp at h
      | cons b l =>
        simp only [firCells, List.getD_cons_succ, List.getD_cons_zero]
        ring
    | succ j =>
      simp only [firCells, List.getD_cons_succ]
      exact ih _ j (by simpa using h)

theorem fir_getD_one (d : List K) (x alpha : K) (c : List K) (h : 1 < d.length) :
    (fir d x alpha c).2.getD 1 0 = (1 - alpha * alpha) * x + alpha * d.getD 1 0 := by
  cases d with
  | nil => simp at h
  | cons d0 dt =>
    rw [fir_snd, firCells_getD_succ _ _ _ 0 (by simpa using h)]
    simp only [firCells, List.getD_cons_succ, List.getD_cons_zero]
    ring

theorem fir_getD_succ (d : List K) (x alpha : K) (c : List K) (k : Nat) (h : k + 2 < d.length) :
    (fir d x alpha c).2.getD (k + 2) 0 =
      d.getD (k + 1) 0 - alpha * (fir d x alpha c).2.getD (k + 1) 0 + alpha * d.getD (k + 2) 0 := by
  cases d with
  | nil => simp at h
  | cons d0 dt =>
    rw [fir_snd, firCells_getD_succ _ _ _ (k + 1) (by simp only [List.length_cons] at h ⊢; omega)]
    simp only [List.getD_cons_succ]
    ring

/-- cell `k` of the delay line fed with `us`, when the previous values of the cells are `d` (the MGLSA sections
    continue the same all-pass ladder from their delay line: `basisFrom`, `MglsaWarp.lean`) -/
def chainFrom (alpha : K) (d : List K) (us : List K) : Nat → List K
  | 0 => us
  | 1 => onePoleFrom alpha (d.getD 1 0) us
  | k + 2 => allpassFrom alpha (d.getD (k + 1) 0) (d.getD (k + 2) 0) (chainFrom alpha d us (k + 1))

theorem chainFrom_cons (alpha : K) (c d : List K) (x : K) (xs : List K) (k : Nat) (h : k + 1 < d.length) :
    chainFrom alpha d (x :: xs) (k + 1) =
      (fir d x alpha c).2.getD (k + 1) 0 :: chainFrom alpha (fir d x alpha c).2 xs (k + 1) := by
  induction k with
  | zero =>
    simp only [Nat.zero_add, chainFrom, onePoleFrom]
    rw [fir_getD_one d x alpha c h]
  | succ k ih =>
    have ih' := ih (by omega)
    show allpassFrom alpha (d.getD (k + 1) 0) (d.getD (k + 2) 0) (chainFrom alpha d (x :: xs) (k + 1)) =
      (fir d x alpha c).2.getD (k + 2) 0 ::
        allpassFrom alpha ((fir d x alpha c).2.getD (k + 1) 0) ((fir d x alpha c).2.getD (k + 2) 0)
          (chainFrom alpha (fir d x alpha c).2 xs (k + 1))
    rw [ih', allpassFrom, fir_getD_succ d x alpha c k h]

theorem chainFrom_rest (alpha : K) (m : Nat) (us : List K) :
    ∀ i, chainFrom alpha (List.replicate m 0) us i = warpChain alpha us i
  | 0 => rfl
  | 1 => by simp only [chainFrom, warpChain, onePoleRun, getD_replicate_default]
  | k + 2 => by
    simp only [chainFrom, warpChain, allpassRun, getD_replicate_default, chainFrom_rest alpha m us (k + 1)]

/-- the invariant: from any delay-line state the output is the `c`-combination of the cells -/
theorem firRun_chain (alpha : K) (c d us : List K) (n : Nat) (hn : n < us.length) :
    (firRun alpha c d us).getD n 0 =
      (Finset.Ico 2 (min d.length c.length)).sum fun i => c.getD i 0 * (chainFrom alpha d us i).getD n 0 := by
  induction us generalizing d n with
  | nil => simp at hn
  | cons x xs ih =>
    have hc : ∀ i ∈ Finset.Ico 2 (min d.length c.length), chainFrom alpha d (x :: xs) i =
        (fir d x alpha c).2.getD i 0 :: chainFrom alpha (fir d x alpha c).2 xs i := by
      intro i hi
      rw [Finset.mem_Ico] at hi
      obtain ⟨k, rfl⟩ : ∃ k, i = k + 1 := ⟨i - 1, by omega⟩
      exact chainFrom_cons alpha c d x xs k (by omega)
    cases n with
    | zero =>
      simp only [firRun, List.getD_cons_zero]
      rw [fir_fst]
      refine Finset.sum_congr rfl fun i hi => ?_
      rw [hc i hi, List.getD_cons_zero]
    | succ n =>
      simp only [firRun, List.getD_cons_succ]
      rw [ih _ n (by simpa using hn), fir_snd_length]
      refine Finset.sum_congr rfl fun i hi => ?_
      rw [hc i hi, List.getD_cons_succ]

variable [LinearOrder K] [IsStrictOrderedRing K] [Transc K] [Consts K] in
set_option linter.unusedSectionVars false in
theorem firRun_length (alpha : K) (c d us : List K) : (firRun alpha c d us).length = us.length :=
  run_length (f := fun d x => fir d x alpha c) (fun _ => rfl) (fun _ _ _ => rfl) d us

theorem delay1_length (us : List K) : (delay1 us).length = us.length := by
  simp [delay1]

/-- **`fir` = `Σ_{i=2}^{…} c_i · warpChain i`** (delay line of `nmcp` cells from rest; the sum stops at the shorter
    of the delay line and the coefficient vector, as the model's `zip` does: the Rust loop reads `coefficients[i]`
    for `i < d.len()` and panics when the delay line is the longer, `mlsa/fir.rs`) -/
theorem firRun_warp (alpha : K) (c : List K) (nmcp : Nat) (us : List K) (n : Nat) (hn : n < us.length) :
    (firRun alpha c (List.replicate nmcp 0) us).getD n 0 =
      (Finset.Ico 2 (min nmcp c.length)).sum fun i => c.getD i 0 * (warpChain alpha us i).getD n 0 := by
  rw [firRun_chain alpha c _ us n hn, List.length_replicate]
  refine Finset.sum_congr rfl fun i _ => ?_
  rw [chainFrom_rest]

theorem basic2_getD (alpha : K) (b us : List K) (n : Nat) (hn : n < us.length) :
    (basic2 alpha b b.length us).getD n 0 =
      (Finset.Ico 2 b.length).sum fun i => b.getD i 0 * (warpBasis alpha us i).getD n 0 := by
  unfold basic2
  rw [firRun_warp alpha b b.length (delay1 us) n (by rw [delay1_length]; exact hn), Nat.min_self]
  rfl

end Jb
