/-
  One frame of `Vocoder::synthesize` (`vocoderSynth`) as a fold of a named per-sample step, and what
  follows from the shape of that fold alone: a frame is `fperiod` samples, and the volume is a gain.
-/
import Jb.Proofs.Field
import Jb.Proofs.ListAux

namespace Jb

variable {K : Type} [Field K] [LinearOrder K] [Transc K] [Consts K]

/-- the per-sample step of `vocoderSynth`'s fold, with the volume a separate argument -/
def synthStep (lpf cinc : List K) (alpha vol : K)
    (acc : List K × List K × FilterSt K × ExcSt K) (_ : Nat) : List K × List K × FilterSt K × ExcSt K :=
  let (outRev, coef, filt, exc) := acc
  let (x, exc) := excGet exc lpf
  let (y, filt) := match filt with
    | .mlsa st =>
      let x := if !(isZeroS x) then x * Transc.exp (coef.getD 0 0) else x
      let (y, st) := mlsaDf st x alpha coef
      (y, FilterSt.mlsa st)
    | .mglsa ds =>
      let x := x * coef.getD 0 0
      let (y, ds) := mglsaDf ds x alpha coef
      (y, FilterSt.mglsa ds)
  let coef' := if cinc.length = coef.length then (coef.zip cinc).map fun (c, d) => c + d else coef
  ((y * vol) :: outRev, coef', filt, exc)

theorem vocoderSynth_eq (fx : Fix) (v : VocoderSt K) (lf0 : K) (spectrum lpf : List K) :
    vocoderSynth fx v lf0 spectrum lpf =
      (let p := periodOfLf0 v.rate lf0
       let v := if v.isFirst then
           { v with isFirst := false,
                    coefficients := if v.stage = 0 then mc2b v.alpha spectrum
                                    else lspCoefficients fx v.useLogGain v.stage v.gamma v.alpha spectrum }
         else v
       let cc : List K :=
         if v.stage = 0 then mc2b v.alpha (postfilterMcp fx v.alpha v.beta spectrum)
         else
           let l := postfilterLsp fx v.useLogGain v.stage v.gamma v.beta spectrum
           let l := checkLspStability l
           lspCoefficients fx v.useLogGain v.stage v.gamma v.alpha l
       let cinc := (cc.zip v.coefficients).map fun (a, b) => (a - b) / (v.fperiod : K)
       let exc := excStart v.exc p v.fperiod
       let r := (List.range v.fperiod).foldl (synthStep lpf cinc v.alpha v.volume)
         ([], v.coefficients, v.filter, exc)
       (r.1.reverse, { v with coefficients := cc, filter := r.2.2.1, exc := excEnd r.2.2.2 p })) := rfl

omit [Consts K] in
theorem synthStep_length (lpf cinc : List K) (alpha vol : K)
    (acc : List K × List K × FilterSt K × ExcSt K) (i : Nat) :
    (synthStep lpf cinc alpha vol acc i).1.length = acc.1.length + 1 := by
  obtain ⟨o, coef, filt, exc⟩ := acc
  cases filt <;> rfl

theorem vocoderSynth_length (fx : Fix) (v : VocoderSt K) (lf0 : K) (sp lpf : List K) :
    (vocoderSynth fx v lf0 sp lpf).1.length = v.fperiod := by
  rw [vocoderSynth_eq]
  simp only [List.length_reverse]
  rw [foldl_measure_succ (fun acc : List K × _ => acc.1.length) _ (synthStep_length lpf _ _ _), List.length_range]
  split <;> exact Nat.zero_add _

omit [Consts K] in
private theorem synthStep_vol (lpf cinc : List K) (alpha g : K) (o coef : List K) (filt : FilterSt K)
    (exc : ExcSt K) (i : Nat) :
    synthStep lpf cinc alpha g (o.map (· * g), coef, filt, exc) i =
      (((synthStep lpf cinc alpha 1 (o, coef, filt, exc) i).1.map (· * g)),
        (synthStep lpf cinc alpha 1 (o, coef, filt, exc) i).2) := by
  unfold synthStep
  cases filt <;> simp

omit [Consts K] in
private theorem synthStep_fold (lpf cinc : List K) (alpha g : K) (l : List Nat) (o coef : List K)
    (filt : FilterSt K) (exc : ExcSt K) :
    l.foldl (synthStep lpf cinc alpha g) (o.map (· * g), coef, filt, exc) =
      (((l.foldl (synthStep lpf cinc alpha 1) (o, coef, filt, exc)).1.map (· * g)),
        (l.foldl (synthStep lpf cinc alpha 1) (o, coef, filt, exc)).2) :=
  List.foldl_hom (init := (o, coef, filt, exc)) (fun acc => (acc.1.map (· * g), acc.2))
    fun (o, coef, filt, exc) i => synthStep_vol lpf cinc alpha g o coef filt exc i

theorem vocoderSynth_volume (fx : Fix) (v : VocoderSt K) (g : K) (lf0 : K) (sp lpf : List K) :
    vocoderSynth fx { v with volume := g } lf0 sp lpf =
      (((vocoderSynth fx { v with volume := 1 } lf0 sp lpf).1.map fun y => y * g),
       { (vocoderSynth fx { v with volume := 1 } lf0 sp lpf).2 with volume := g }) := by
  obtain ⟨stage, gamma, useLogGain, fperiod, rate, alpha, beta, volume, coefficients, filter, exc, isFirst⟩ := v
  have h := fun cinc l coef filt exc => synthStep_fold lpf cinc alpha g l [] coef filt exc
  simp only [List.map_nil] at h
  rw [vocoderSynth_eq, vocoderSynth_eq]
  cases isFirst <;> simp only [Bool.false_eq_true, if_false, if_true, h, List.map_reverse]

end Jb
