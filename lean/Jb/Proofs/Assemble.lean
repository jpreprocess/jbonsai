/-
  `calc_wuw_and_wum` assembles W'U⁻¹W (banded) and W'U⁻¹μ for the window matrix W
  (`Jb/Model/Mlpg.lean`: `wuwRow`, `calcWuwWum`), provided every observation whose window span leaves
  the frame range has zero precision — which `windowParams` guarantees for dynamic windows (F8 in
  DESIGN.md: the code `break`s instead of `continue`-ing at the right edge).
-/
import Jb.Proofs.Field
import Jb.Proofs.ListAux

namespace Jb

variable {K : Type} [Field K] [LinearOrder K]

/-- coefficient with which the observation of window `win` centred at frame `s` weighs frame `t`:
    `win[k]` with `k = t − s + half` when that index exists, else 0 -/
def winCoef (win : List K) (s t : Nat) : K :=
  if s ≤ t + win.length / 2 ∧ t + win.length / 2 - s < win.length then win.getD (t + win.length / 2 - s) 0 else 0

/-- `(W' P W)[t][t']` from the definition: a sum over windows and observation frames `s` -/
def wpwEntry (windows : List (List K)) (obs : List (List (MeanVari K))) (T t t' : Nat) : K :=
  ((windows.zip obs).map fun wo =>
    (Finset.range T).sum fun s => (wo.2.getD s ⟨0, 0⟩).vari * winCoef wo.1 s t * winCoef wo.1 s t').sum

/-- `(W' P μ)[t]` from the definition -/
def wpmEntry (windows : List (List K)) (obs : List (List (MeanVari K))) (T t : Nat) : K :=
  ((windows.zip obs).map fun wo =>
    (Finset.range T).sum fun s => (wo.2.getD s ⟨0, 0⟩).vari * (wo.2.getD s ⟨0, 0⟩).mean * winCoef wo.1 s t).sum

/-- Observations whose span `[s − half, s + (w − 1 − half)]` leaves `[0, T)` carry zero precision. The
    assembly (`wuwRow_spec`) needs the right edge only; the left edge is needed for the row sums of `W'PW`
    (`wpwEntry_rowsum` in `Shift.lean`). -/
def EdgeZero (windows : List (List K)) (obs : List (List (MeanVari K))) (T : Nat) : Prop :=
  ∀ wo ∈ windows.zip obs, ∀ s, s < T →
    (s < wo.1.length / 2 ∨ T ≤ s + (wo.1.length - 1 - wo.1.length / 2)) → (wo.2.getD s ⟨0, 0⟩).vari = 0

/-- the accumulator of `wuwRow` as one vector: component `none` is `wum[t]`, `some j` is `wuw[t][j]` -/
private def accAt (acc : List K × K) : Option Nat → K
  | none => acc.2
  | some j => acc.1.getD j 0

/-- The inner loop (`k2 = k+n-1 … k`) adds `wu · win[j + k]` at every `j < n`; the `break` is invisible as
    long as it can only fire when `wu = 0`. -/
private theorem asm_inner_spec (win : List K) (T t k : Nat) (wu : K) (n : Nat) (row : List K)
    (hbr : ∀ i, i < n → T ≤ t + i → wu = 0) (hlen : n ≤ row.length) :
    (wuwRow.inner T t win k wu ((List.range n).reverse.map (· + k)) row).length = row.length ∧
    ∀ j, (wuwRow.inner T t win k wu ((List.range n).reverse.map (· + k)) row).getD j 0 =
      row.getD j 0 + if j < n then wu * win.getD (j + k) 0 else 0 := by
  induction n generalizing row with
  | zero => exact ⟨rfl, fun j => by rw [if_neg (Nat.not_lt_zero j), add_zero]; rfl⟩
  | succ n ih =>
    have hbr' : ∀ i, i < n → T ≤ t + i → wu = 0 := fun i hi => hbr i (Nat.lt_succ_of_lt hi)
    rw [List.range_succ, List.reverse_append, List.reverse_singleton, List.singleton_append, List.map_cons,
      wuwRow.inner, Nat.add_sub_cancel]
    dsimp only
    split_ifs with hz hT
    · -- a zero coefficient is skipped: nothing to add at `j = n`
      obtain ⟨h1, h2⟩ := ih row hbr' (Nat.le_of_succ_le hlen)
      refine ⟨h1, fun j => ?_⟩
      rw [h2 j]
      rcases Nat.lt_trichotomy j n with h | rfl | h
      · rw [if_pos h, if_pos (Nat.lt_succ_of_lt h)]
      · rw [if_neg (Nat.lt_irrefl _), if_pos (Nat.lt_succ_self _), (isZero_iff _).1 hz, mul_zero]
      · rw [if_neg (Nat.lt_asymm h), if_neg (Nat.not_lt.2 h)]
    · -- the `break`: `wu = 0`, so the skipped additions are all zero
      cases hbr n (Nat.lt_succ_self n) hT
      exact ⟨rfl, fun j => by simp only [zero_mul, ite_self, add_zero]⟩
    · obtain ⟨h1, h2⟩ := ih (row.set n (row.getD n 0 + wu * win.getD (n + k) 0)) hbr'
        (by rw [List.length_set]; exact Nat.le_of_succ_le hlen)
      refine ⟨by rw [h1, List.length_set], fun j => ?_⟩
      rw [h2 j]
      rcases Nat.lt_trichotomy j n with h | rfl | h
      · rw [if_pos h, if_pos (Nat.lt_succ_of_lt h), getD_set_ne _ _ _ _ _ h.ne']
      · rw [if_neg (Nat.lt_irrefl _), if_pos (Nat.lt_succ_self _), getD_set_self _ _ _ _ hlen, add_zero]
      · rw [if_neg (Nat.lt_asymm h), if_neg (Nat.not_lt.2 h), getD_set_ne _ _ _ _ _ h.ne]

/-- body of the `k` loop of `wuwRow` -/
private def asmKStep (win : List K) (ob : List (MeanVari K)) (T t : Nat) (acc : List K × K) (k : Nat) : List K × K :=
  if isZero (win.getD k 0) then acc
  else if t + win.length / 2 < k then acc
  else if T ≤ t + win.length / 2 - k then acc
  else
    (wuwRow.inner T t win k (win.getD k 0 * (ob.getD (t + win.length / 2 - k) ⟨0, 0⟩).vari)
        ((List.range (win.length - k)).reverse.map (· + k)) acc.1,
      acc.2 + win.getD k 0 * (ob.getD (t + win.length / 2 - k) ⟨0, 0⟩).vari *
        (ob.getD (t + win.length / 2 - k) ⟨0, 0⟩).mean)

private def asmWinStep (T t : Nat) (acc : List K × K) (wo : List K × List (MeanVari K)) : List K × K :=
  (List.range wo.1.length).reverse.foldl (asmKStep wo.1 wo.2 T t) acc

private theorem asm_wuwRow_def (windows : List (List K)) (obs : List (List (MeanVari K))) (T width t : Nat) :
    wuwRow windows obs T width t = (windows.zip obs).foldl (asmWinStep T t) (List.replicate width 0, 0) := rfl

/-- weight of tap `k` in row `t`: `win[k] · p[t + half − k]` when that frame exists, else 0 -/
private def asmCoef (win : List K) (ob : List (MeanVari K)) (T t k : Nat) : K :=
  if k ≤ t + win.length / 2 ∧ t + win.length / 2 - k < T then
    win.getD k 0 * (ob.getD (t + win.length / 2 - k) ⟨0, 0⟩).vari else 0

/-- what the observation at frame `s` contributes to component `c` of row `t`, up to its precision and its
    own coefficient for `t` -/
private def asmTerm (win : List K) (ob : List (MeanVari K)) (t s : Nat) : Option Nat → K
  | none => (ob.getD s ⟨0, 0⟩).mean
  | some j => winCoef win s (t + j)

omit [LinearOrder K] in
private theorem asm_winCoef_shift (win : List K) (t j k : Nat) (hk : k ≤ t + win.length / 2) :
    winCoef win (t + win.length / 2 - k) (t + j) = win.getD (j + k) 0 := by
  rw [winCoef, show t + j + win.length / 2 - (t + win.length / 2 - k) = j + k by omega]
  split_ifs with h
  · rfl
  · exact (List.getD_eq_default _ _ (by omega)).symm

private theorem asm_kStep_spec (win : List K) (ob : List (MeanVari K)) (T t : Nat)
    (hE : ∀ s, s < T → T ≤ s + (win.length - 1 - win.length / 2) → (ob.getD s ⟨0, 0⟩).vari = 0)
    (acc : List K × K) (k : Nat) (hk : k < win.length) (hlen : win.length ≤ acc.1.length) :
    (asmKStep win ob T t acc k).1.length = acc.1.length ∧ ∀ c, accAt (asmKStep win ob T t acc k) c =
      accAt acc c + asmCoef win ob T t k * asmTerm win ob t (t + win.length / 2 - k) c := by
  unfold asmKStep asmCoef
  by_cases hz : isZero (win.getD k 0) = true
  · rw [if_pos hz, (isZero_iff _).1 hz]
    exact ⟨rfl, fun c => by simp only [zero_mul, ite_self, add_zero]⟩
  rw [if_neg hz]
  by_cases h1 : t + win.length / 2 < k
  · rw [if_pos h1, if_neg (by omega)]
    exact ⟨rfl, fun c => by rw [zero_mul, add_zero]⟩
  rw [if_neg h1]
  by_cases h2 : T ≤ t + win.length / 2 - k
  · rw [if_pos h2, if_neg (by omega)]
    exact ⟨rfl, fun c => by rw [zero_mul, add_zero]⟩
  have h : k ≤ t + win.length / 2 ∧ t + win.length / 2 - k < T := ⟨not_lt.1 h1, not_le.1 h2⟩
  rw [if_neg h2, if_pos h]
  obtain ⟨i1, i2⟩ := asm_inner_spec win T t k
    (win.getD k 0 * (ob.getD (t + win.length / 2 - k) ⟨0, 0⟩).vari) (win.length - k) acc.1
    (fun i hi hT => by rw [hE (t + win.length / 2 - k) h.2 (by omega), mul_zero]) (by omega)
  refine ⟨i1, fun c => ?_⟩
  cases c with
  | none => rfl
  | some j =>
    rw [accAt, accAt, asmTerm, i2 j, asm_winCoef_shift win t j k h.1]
    split_ifs with hj
    · rfl
    · rw [List.getD_eq_default win _ (n := j + k) (by omega), mul_zero]

omit [LinearOrder K] in
/-- re-indexing taps `k` by observation frames `s = t + half − k` -/
private theorem asm_reindex (win : List K) (ob : List (MeanVari K)) (T t : Nat) (g : Nat → K) :
    (Finset.range win.length).sum (fun k => asmCoef win ob T t k * g (t + win.length / 2 - k)) =
    (Finset.range T).sum (fun s => (ob.getD s ⟨0, 0⟩).vari * winCoef win s t * g s) := by
  simp only [asmCoef, winCoef, ite_mul, mul_ite, zero_mul, mul_zero]
  generalize t + win.length / 2 = c
  rw [← Finset.sum_filter, ← Finset.sum_filter]
  -- taps `k` with an existing frame `c − k` and frames `s` with an existing tap `c − s` correspond under
  -- `k ↦ c − k`, which is its own inverse on them
  refine Finset.sum_nbij' (fun k => c - k) (fun s => c - s) ?mapsTo ?mapsBack ?leftInv ?rightInv ?terms
  all_goals
    intro k hk
    simp only [Finset.mem_filter, Finset.mem_range] at hk ⊢
  case mapsTo => omega
  case mapsBack => omega
  case leftInv => omega
  case rightInv => omega
  case terms => rw [Nat.sub_sub_self hk.2.1, mul_comm (win.getD k 0)]

private theorem asm_winStep_spec (win : List K) (ob : List (MeanVari K)) (T t : Nat)
    (hE : ∀ s, s < T → T ≤ s + (win.length - 1 - win.length / 2) → (ob.getD s ⟨0, 0⟩).vari = 0)
    (acc : List K × K) (hlen : win.length ≤ acc.1.length) :
    (asmWinStep T t acc (win, ob)).1.length = acc.1.length ∧ ∀ c, accAt (asmWinStep T t acc (win, ob)) c =
      accAt acc c + (Finset.range T).sum fun s =>
        (ob.getD s ⟨0, 0⟩).vari * winCoef win s t * asmTerm win ob t s c := by
  obtain ⟨h1, h2⟩ := foldl_add_spec (fun a => a.1.length = acc.1.length) accAt (asmKStep win ob T t)
    (fun k c => asmCoef win ob T t k * asmTerm win ob t (t + win.length / 2 - k) c)
    (List.range win.length).reverse
    (fun a ha k hk => by
      obtain ⟨e1, e2⟩ := asm_kStep_spec win ob T t hE a k
        (List.mem_range.1 (List.mem_reverse.1 hk)) (ha ▸ hlen)
      exact ⟨e1.trans ha, e2⟩) acc rfl
  exact ⟨h1, fun c => by rw [asmWinStep, h2 c, List.map_reverse, List.sum_reverse, sum_map_range,
    asm_reindex win ob T t fun s => asmTerm win ob t s c]⟩

/-- **Band assembly**, in full: row `t` of `calc_wuw_and_wum` has `width` entries, entry `j` (any `j`) is
    `(W'PW)[t][t+j]`, and the right-hand side is `(W'Pμ)[t]`. Only the right-edge half of `EdgeZero` is used:
    that is where the `break` sits. -/
theorem wuwRow_spec (windows : List (List K)) (obs : List (List (MeanVari K))) (T width t : Nat)
    (hw : ∀ w ∈ windows, w.length ≤ width) (hedge : EdgeZero windows obs T) :
    (wuwRow windows obs T width t).2 = wpmEntry windows obs T t ∧
    (wuwRow windows obs T width t).1.length = width ∧
    ∀ j, (wuwRow windows obs T width t).1.getD j 0 = wpwEntry windows obs T t (t + j) := by
  rw [asm_wuwRow_def]
  obtain ⟨h1, h2⟩ := foldl_add_spec (fun a => a.1.length = width) accAt (asmWinStep T t)
    (fun wo c => (Finset.range T).sum fun s =>
      (wo.2.getD s ⟨0, 0⟩).vari * winCoef wo.1 s t * asmTerm wo.1 wo.2 t s c) (windows.zip obs)
    (fun a ha wo hwo => by
      obtain ⟨e1, e2⟩ := asm_winStep_spec wo.1 wo.2 T t (fun s hs hT => hedge wo hwo s hs (Or.inr hT)) a
        (ha ▸ hw _ (List.of_mem_zip hwo).1)
      exact ⟨e1.trans ha, e2⟩) (List.replicate width 0, 0) List.length_replicate
  have h0 : ∀ c, accAt (List.replicate width (0 : K), (0 : K)) c = 0 := fun c => by
    cases c with
    | none => rfl
    | some j => exact getD_replicate_default width j 0
  refine ⟨?_, h1, fun j => (h2 (some j)).trans (by rw [h0, zero_add]; rfl)⟩
  refine (h2 none).trans ?_
  rw [h0, zero_add, wpmEntry]
  exact congrArg List.sum (List.map_congr_left fun wo _ => Finset.sum_congr rfl fun s _ => mul_right_comm _ _ _)

/-- the band rows depend on the observations only through `W'PW` -/
theorem wuwRow_fst_congr (windows : List (List K)) (obs obs' : List (List (MeanVari K))) (T width t : Nat)
    (hw : ∀ w ∈ windows, w.length ≤ width) (hedge : EdgeZero windows obs T) (hedge' : EdgeZero windows obs' T)
    (h : ∀ t', wpwEntry windows obs' T t t' = wpwEntry windows obs T t t') :
    (wuwRow windows obs' T width t).1 = (wuwRow windows obs T width t).1 := by
  obtain ⟨-, l, e⟩ := wuwRow_spec windows obs T width t hw hedge
  obtain ⟨-, l', e'⟩ := wuwRow_spec windows obs' T width t hw hedge'
  refine List.ext_getElem (l'.trans l.symm) fun j h1 h2 => ?_
  rw [← List.getD_eq_getElem _ 0 h1, ← List.getD_eq_getElem _ 0 h2, e, e', h]

variable [IsStrictOrderedRing K] [Transc K] [Consts K] [MlpgConsts K]

set_option linter.unusedSectionVars false in
set_option linter.unusedVariables false in
/-- **Band assembly.** Row `t` of `calc_wuw_and_wum` holds `(W'PW)[t][t+j]` for `0 ≤ j < width` and `(W'Pμ)[t]`;
    `width` is any bound ≥ every window's length. `ht`, `hobs` and the two bounds on `j` are not used
    (`wuwRow_spec`). -/
theorem wuwRow_eq (windows : List (List K)) (obs : List (List (MeanVari K))) (T width t : Nat)
    (ht : t < T) (hw : ∀ w ∈ windows, w.length ≤ width) (hobs : ∀ o ∈ obs, o.length = T)
    (hedge : EdgeZero windows obs T) :
    (wuwRow windows obs T width t).2 = wpmEntry windows obs T t ∧
    (wuwRow windows obs T width t).1.length = width ∧
    ∀ j, j < width → t + j < T → (wuwRow windows obs T width t).1.getD j 0 = wpwEntry windows obs T t (t + j) :=
  have h := wuwRow_spec windows obs T width t hw hedge
  ⟨h.1, h.2.1, fun j _ _ => h.2.2 j⟩

end Jb
