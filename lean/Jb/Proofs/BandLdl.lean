/-
  The algebra behind the banded LDLᵀ solver, over functions `ℕ → K` (no lists): a symmetric band matrix is
  given by `a t j = A[t][t+j]`, its product with a vector by `bandRow`. If `d`, `l` satisfy the factorisation
  recurrences (`IsLdl`) then `A = L D Lᵀ` entry by entry, hence
    * forward and backward substitution solve `A c = r` (`IsLdl.solves`),
    * `xᵀ A x = Σ_k d_k ((Lᵀ x)_k)²` (`IsLdl.quadF_eq`), and since a unit triangular system can be solved there
      is a vector `x` with `x_t = 1`, supported on `≤ t`, whose quadratic form is the pivot `d_t`
      (`IsLdl.exists_pivot_vector`) — so a positive definite `A` has positive pivots.
-/
import Mathlib.Algebra.BigOperators.Intervals
import Mathlib.Algebra.BigOperators.Ring.Finset
import Mathlib.Tactic.Ring
import Jb.Proofs.ListAux

namespace Jb

open Finset

variable {K : Type} [Field K]

/-- The code's band loops run over the most recent entries first (`i = 1 … min n (t+1) − 1` steps back);
    as long as `f k i` vanishes for `i ≥ n` that is the sum over all earlier `k` at distance `t − k`. -/
theorem sum_band_recent (f : ℕ → ℕ → K) {n : ℕ} (t : ℕ) (hz : ∀ k i, n ≤ i → f k i = 0) :
    ∑ i0 ∈ range (min n (t + 1) - 1), f (t - 1 - i0) (i0 + 1) = ∑ k ∈ range t, f k (t - k) := by
  rw [sum_range_extend _ (show min n (t + 1) - 1 ≤ t by omega) fun j h1 _ => hz _ _ (by omega),
    ← sum_range_reflect (fun k => f k (t - k))]
  exact sum_congr rfl fun j hj => by rw [show t - (t - 1 - j) = j + 1 by have := mem_range.1 hj; omega]

theorem lt_of_mem_range_recent {n t i0 : ℕ} (h : i0 ∈ range (min n (t + 1) - 1)) : i0 < t := by
  have := mem_range.1 h
  omega

/-- unit lower-triangular factor as a function on `ℕ × ℕ` -/
def lowerM (l : ℕ → ℕ → K) (s k : ℕ) : K := if k < s then l k (s - k) else if k = s then 1 else 0

theorem lowerM_lt (l : ℕ → ℕ → K) {s k : ℕ} (h : k < s) : lowerM l s k = l k (s - k) := if_pos h
theorem lowerM_self (l : ℕ → ℕ → K) (s : ℕ) : lowerM l s s = 1 := by simp [lowerM]
theorem lowerM_gt (l : ℕ → ℕ → K) {s k : ℕ} (h : s < k) : lowerM l s k = 0 := by
  rw [lowerM, if_neg (by omega), if_neg (by omega)]

theorem sum_lowerM (l : ℕ → ℕ → K) (X : ℕ → K) {T t : ℕ} (ht : t < T) :
    ∑ k ∈ range T, lowerM l t k * X k = (∑ k ∈ range t, l k (t - k) * X k) + X t := by
  rw [← sum_range_extend _ (Nat.succ_le_of_lt ht) fun j h1 _ => by rw [lowerM_gt l h1, zero_mul],
    sum_range_succ, lowerM_self, one_mul]
  exact congrArg (· + X t) (sum_congr rfl fun k hk => by rw [lowerM_lt l (mem_range.1 hk)])

theorem sum_lowerM_col (l : ℕ → ℕ → K) (c : ℕ → K) {T k : ℕ} (hk : k < T) :
    ∑ s ∈ range T, lowerM l s k * c s =
      c k + ∑ i ∈ range (T - 1 - k), l k (i + 1) * c (k + 1 + i) := by
  obtain ⟨n, rfl⟩ : ∃ n, T = k + 1 + n := ⟨T - 1 - k, by omega⟩
  rw [sum_range_add, sum_range_succ, lowerM_self, one_mul,
    sum_eq_zero fun s hs => by rw [lowerM_gt l (mem_range.1 hs), zero_mul], zero_add,
    show k + 1 + n - 1 - k = n by omega]
  exact congrArg (c k + ·) (sum_congr rfl fun i _ => by
    rw [lowerM_lt l (by omega), show k + 1 + i - k = i + 1 by omega])

/-- row `t` of `A x` for the symmetric band matrix `A[s][s+i] = A[s+i][s] = a s i` of order `T` -/
def bandRow (T : ℕ) (a : ℕ → ℕ → K) (x : ℕ → K) (t : ℕ) : K :=
  (∑ s ∈ range t, a s (t - s) * x s) + ∑ i ∈ range (T - t), a t i * x (t + i)

/-- the band row product is the dense one, for any symmetric `A` the stored band agrees with -/
theorem bandRow_eq_dense (T : ℕ) (a A : ℕ → ℕ → K) (x : ℕ → K) (hA : ∀ s t, A s t = A t s)
    (h : ∀ t i, t + i < T → a t i = A t (t + i)) {t : ℕ} (ht : t < T) :
    bandRow T a x t = ∑ t' ∈ range T, A t t' * x t' := by
  obtain ⟨n, rfl⟩ : ∃ n, T = t + n := ⟨T - t, by omega⟩
  rw [sum_range_add, bandRow, Nat.add_sub_cancel_left]
  congr 1
  · exact sum_congr rfl fun s hs => by
      have := mem_range.1 hs
      rw [h s (t - s) (by omega), Nat.add_sub_cancel' this.le, hA]
  · exact sum_congr rfl fun i hi => by rw [h t i (by simpa using hi)]

/-- `d`, `l` are the LDLᵀ factors of the band matrix `a` on its leading `T × T` block. The off-diagonal
    entries of row `T − 1` lie outside the block and are not constrained. -/
structure IsLdl (T : ℕ) (a l : ℕ → ℕ → K) (d : ℕ → K) : Prop where
  diag : ∀ t, t < T → d t = a t 0 - ∑ k ∈ range t, l k (t - k) * l k (t - k) * d k
  off : ∀ t, t + 1 < T → ∀ j, 1 ≤ j →
    l t j * d t = a t j - ∑ k ∈ range t, l k (t - k) * l k (t - k + j) * d k

variable {T : ℕ} {a l : ℕ → ℕ → K} {d : ℕ → K}

/-- `A = L D Lᵀ`, entry by entry -/
theorem IsLdl.entry (F : IsLdl T a l d) {s s' : ℕ} (hss : s ≤ s') (hs' : s' < T) :
    a s (s' - s) = ∑ k ∈ range T, lowerM l s k * (lowerM l s' k * d k) := by
  rw [sum_lowerM l _ (hss.trans_lt hs')]
  rcases Nat.eq_or_lt_of_le hss with rfl | hlt
  · rw [Nat.sub_self, lowerM_self, one_mul, F.diag s hs',
      sum_congr rfl fun k hk => by rw [lowerM_lt l (mem_range.1 hk), ← mul_assoc]]
    ring
  · rw [lowerM_lt l hlt, sum_congr rfl fun k hk => by
      rw [lowerM_lt l ((mem_range.1 hk).trans hlt), ← mul_assoc,
        show s' - k = s - k + (s' - s) by have := mem_range.1 hk; omega],
      F.off s (by omega) (s' - s) (by omega)]
    ring

/-- `A x = L D Lᵀ x`, row by row -/
theorem IsLdl.row_eq (F : IsLdl T a l d) (x : ℕ → K) {t : ℕ} (ht : t < T) :
    bandRow T a x t = ∑ k ∈ range T, lowerM l t k * (d k * ∑ s ∈ range T, lowerM l s k * x s) := by
  rw [bandRow_eq_dense T a (fun s s' => ∑ k ∈ range T, lowerM l s k * (lowerM l s' k * d k)) x
    (fun s s' => sum_congr rfl fun k _ => mul_left_comm _ _ _)
    (fun s i hs => by rw [← F.entry (Nat.le_add_right s i) hs, Nat.add_sub_cancel_left]) ht]
  simp only [sum_mul, mul_sum]
  rw [sum_comm]
  exact sum_congr rfl fun k _ => sum_congr rfl fun s _ => by ring

/-- **Abstract LDLᵀ correctness.** If moreover `g` satisfies the forward and `c` the backward substitution
    recurrence, then `A c = r`. -/
theorem IsLdl.solves (F : IsLdl T a l d) {g r c : ℕ → K}
    (Rg : ∀ t, t < T → g t = r t - ∑ k ∈ range t, l k (t - k) * g k)
    (Rc : ∀ t, t < T → g t = d t * (c t + ∑ i ∈ range (T - 1 - t), l t (i + 1) * c (t + 1 + i)))
    {t : ℕ} (ht : t < T) : bandRow T a c t = r t := by
  rw [F.row_eq c ht,
    sum_congr rfl fun k hk => by rw [sum_lowerM_col l c (mem_range.1 hk), ← Rc k (mem_range.1 hk)],
    sum_lowerM l g ht, Rg t ht, add_sub_cancel]

/-- quadratic form `xᵀ A x` -/
def quadF (T : ℕ) (a : ℕ → ℕ → K) (x : ℕ → K) : K := ∑ s ∈ range T, x s * bandRow T a x s

/-- `xᵀ A x = Σ_k d_k ((Lᵀ x)_k)²` -/
theorem IsLdl.quadF_eq (F : IsLdl T a l d) (x : ℕ → K) :
    quadF T a x = ∑ k ∈ range T, d k * (∑ s ∈ range T, lowerM l s k * x s) ^ 2 := by
  rw [quadF, sum_congr rfl fun s hs => by rw [F.row_eq x (mem_range.1 hs), mul_sum], sum_comm]
  refine sum_congr rfl fun k _ => ?_
  rw [sum_congr rfl fun s _ => by rw [← mul_assoc, mul_comm (x s)], ← sum_mul, pow_two, mul_left_comm]

/-- a unit upper-triangular system `Lᵀ x = b` of order `n` has a solution supported on `< n` -/
theorem unit_tri_solve (l : ℕ → ℕ → K) (n : ℕ) (b : ℕ → K) :
    ∃ x : ℕ → K, (∀ s, n ≤ s → x s = 0) ∧ ∀ k, k < n → ∑ s ∈ range n, lowerM l s k * x s = b k := by
  induction n generalizing b with
  | zero => exact ⟨fun _ => 0, fun _ _ => rfl, fun k hk => absurd hk (Nat.not_lt_zero k)⟩
  | succ n ih =>
    -- the last unknown is `b n`; the others solve the order-`n` system with `b n` moved to the right
    obtain ⟨x', hz, hx'⟩ := ih fun k => b k - lowerM l n k * b n
    refine ⟨Function.update x' n (b n), fun s hs => ?_, fun k hk => ?_⟩
    · rw [Function.update_of_ne (by omega), hz s (by omega)]
    rw [sum_range_succ, Function.update_self, sum_congr rfl fun s hs => by
      rw [Function.update_of_ne (mem_range.1 hs).ne]]
    rcases Nat.lt_succ_iff_lt_or_eq.1 hk with h | rfl
    · rw [hx' k h, sub_add_cancel]
    · rw [sum_eq_zero fun s hs => by rw [lowerM_gt l (mem_range.1 hs), zero_mul], lowerM_self, zero_add,
        one_mul]

theorem quadF_shrink {T T' : ℕ} (h : T' ≤ T) (a : ℕ → ℕ → K) (x : ℕ → K)
    (hx : ∀ s, T' ≤ s → x s = 0) : quadF T a x = quadF T' a x := by
  unfold quadF
  rw [← sum_range_extend (fun s => x s * bandRow T a x s) h fun j h1 _ => by rw [hx j h1, zero_mul]]
  refine sum_congr rfl fun s hs => ?_
  have hs := mem_range.1 hs
  rw [bandRow, bandRow, sum_range_extend (fun i => a s i * x (s + i)) (show T' - s ≤ T - s by omega)
    fun j h1 _ => by rw [hx (s + j) (by omega), mul_zero]]

/-- the vector that isolates the pivot `d t`: `x_t = 1`, supported on `≤ t`, `xᵀ A x = d_t` -/
theorem IsLdl.exists_pivot_vector {t : ℕ} (F : IsLdl (t + 1) a l d) :
    ∃ x : ℕ → K, x t = 1 ∧ (∀ s, t < s → x s = 0) ∧ quadF (t + 1) a x = d t := by
  obtain ⟨x, hz, hx⟩ := unit_tri_solve l (t + 1) fun k => if k = t then 1 else 0
  refine ⟨x, ?_, hz, ?_⟩
  · have h := hx t t.lt_succ_self
    rwa [sum_range_succ, sum_eq_zero fun s hs => by rw [lowerM_gt l (mem_range.1 hs), zero_mul],
      lowerM_self, zero_add, one_mul, if_pos rfl] at h
  · rw [F.quadF_eq x, sum_congr rfl fun k hk => by rw [hx k (mem_range.1 hk)],
      sum_range_succ, sum_eq_zero fun k hk => by rw [if_neg (mem_range.1 hk).ne, zero_pow two_ne_zero,
        mul_zero], if_pos rfl, one_pow, mul_one, zero_add]

end Jb
