/-
  The MLSA filter (`fir`, `mlsaDf1`, `mlsaDf2`, `mlsaDf` of `Jb/Model/Vocoder.lean`) with frozen coefficients:
  equations for `fir`, the two Padé loops as folds, and linearity of one sample in (state, input) — hence
  (`IsLTI.of_step`) the filter from rest is linear, time-invariant and the convolution with its pulse response.
  Apart from linearity: with all-zero coefficients the filter is the identity in every state (`mlsaDf_zero`).
-/
import Jb.Model.Vocoder
import Jb.Proofs.Lti
import Jb.Proofs.ListAux
import Mathlib.Algebra.BigOperators.Ring.Finset

namespace Jb

variable {K : Type} [Field K]

/-- the new cells computed by the fold of `fir`, carry `cr` -/
def firCells (alpha : K) : K → List K → List K
  | _, [] => []
  | cr, di :: l => (alpha * di + cr) :: firCells alpha ((1 - alpha * alpha) * di - alpha * cr) l

theorem fir_fold_cells (alpha : K) (l : List K) (acc : List K × K) :
    (l.foldl (fun (acc : List K × K) di =>
        (acc.1 ++ [alpha * di + acc.2], (1 - alpha * alpha) * di - alpha * acc.2)) acc).1
      = acc.1 ++ firCells alpha acc.2 l := by
  induction l generalizing acc with
  | nil => simp [firCells]
  | cons di l ih => simp only [List.foldl_cons, ih, firCells, List.append_assoc, List.cons_append,
      List.nil_append]

theorem fir_snd (d0 : K) (dt : List K) (x alpha : K) (c : List K) :
    (fir (d0 :: dt) x alpha c).2 = firCells alpha 0 (x :: dt) := by
  simp only [fir]
  rw [fir_fold_cells]
  simp

theorem firCells_length (alpha cr : K) (l : List K) : (firCells alpha cr l).length = l.length := by
  induction l generalizing cr with
  | nil => rfl
  | cons di l ih => rw [firCells, List.length_cons, ih, List.length_cons]

theorem fir_snd_length (d : List K) (x alpha : K) (c : List K) : (fir d x alpha c).2.length = d.length := by
  cases d with
  | nil => rfl
  | cons x0 dt => rw [fir_snd, firCells_length, List.length_cons, List.length_cons]

theorem fir_dot_sum (l c : List K) (k : Nat) (a : K) :
    ((l.zip c).drop k).foldl (fun acc (p : K × K) => acc + p.1 * p.2) a
      = a + (Finset.Ico k (min l.length c.length)).sum fun i => c.getD i 0 * l.getD i 0 := by
  rw [foldl_add_map (fun p : K × K => p.1 * p.2), sum_map_drop _ _ k (0, 0), List.length_zip,
    Finset.sum_Ico_eq_sum_range]
  refine congrArg _ (Finset.sum_congr rfl fun i hi => ?_)
  have hi' : k + i < min l.length c.length := by have := Finset.mem_range.1 hi; omega
  rw [getD_zip _ _ _ (by omega) (by omega), mul_comm]

theorem fir_fst (d : List K) (x alpha : K) (c : List K) :
    (fir d x alpha c).1 =
      (Finset.Ico 2 (min d.length c.length)).sum fun i => c.getD i 0 * (fir d x alpha c).2.getD i 0 := by
  cases d with
  | nil => simp [fir]
  | cons d0 dt =>
    have h := fir_dot_sum (fir (d0 :: dt) x alpha c).2 c 2 0
    rw [zero_add, fir_snd_length] at h
    rw [← h]
    rfl  -- `fir` returns exactly this fold over `(dnew.zip c).drop 2`

theorem firCells_lin {a b alpha : K} {l m n : List K} (h : Lin a b l m n) {p q r : K} (hr : r = a * p + b * q) :
    Lin a b (firCells alpha p l) (firCells alpha q m) (firCells alpha r n) := by
  induction h generalizing p q r with
  | nil => exact .nil
  | cons hx _ ih => subst hr hx; exact .cons (by ring) (ih (by ring))

theorem fir_lin {a b : K} {d e g : List K} (h : Lin a b d e g) (x y alpha : K) (c : List K) :
    (fir g (a * x + b * y) alpha c).1 = a * (fir d x alpha c).1 + b * (fir e y alpha c).1 ∧
      Lin a b (fir d x alpha c).2 (fir e y alpha c).2 (fir g (a * x + b * y) alpha c).2 := by
  have h2 : Lin a b (fir d x alpha c).2 (fir e y alpha c).2 (fir g (a * x + b * y) alpha c).2 := by
    cases h with
    | nil => exact .nil
    | cons _ ht => simp only [fir_snd]; exact firCells_lin (.cons rfl ht) (by ring)
  refine ⟨?_, h2⟩
  rw [fir_fst, fir_fst d, fir_fst e, h.length.1, h.length.2, Finset.mul_sum, Finset.mul_sum,
    ← Finset.sum_add_distrib]
  refine Finset.sum_congr rfl fun i _ => ?_
  rw [h2.getD]
  ring

/-- one iteration of the `df1` loop -/
def df1Step (st : MlsaSt K) (alpha : K) (c : List K) (acc : K × K × List K × List K) (i : Nat) :
    K × K × List K × List K :=
  let aa := 1 - alpha * alpha
  let c1 := c.getD 1 0
  let pp : List K := padeCoef
  let (x, out, d11, d12) := acc
  let n11 := aa * st.d12.getD (i - 1) 0 + alpha * d11.getD i 0
  let n12 := n11 * c1
  let v := n12 * pp.getD i 0
  (if i % 2 = 1 then x + v else x + -v, out + v, d11.set i n11, d12.set i n12)

theorem mlsaDf1_fold (st : MlsaSt K) (x alpha : K) (c : List K) :
    mlsaDf1 st x alpha c =
      (let r := [5, 4, 3, 2, 1].foldl (df1Step st alpha c) (x, 0, st.d11, st.d12)
       (r.1 + r.2.1, { st with d11 := r.2.2.1, d12 := r.2.2.2.set 0 r.1 })) := rfl

/-- one iteration of the `df2` loop -/
def df2Step (st : MlsaSt K) (alpha : K) (c : List K) (acc : K × K × List (List K) × List K) (i : Nat) :
    K × K × List (List K) × List K :=
  let pp : List K := padeCoef
  let (x, out, d21, d22) := acc
  let (y, dn) := fir (d21.getD (i - 1) []) (st.d22.getD (i - 1) 0) alpha c
  let v := y * pp.getD i 0
  (if i % 2 = 1 then x + v else x + -v, out + v, d21.set (i - 1) dn, d22.set i y)

theorem mlsaDf2_fold (st : MlsaSt K) (x alpha : K) (c : List K) :
    mlsaDf2 st x alpha c =
      (let r := [5, 4, 3, 2, 1].foldl (df2Step st alpha c) (x, 0, st.d21, st.d22)
       (r.1 + r.2.1, { st with d21 := r.2.2.1, d22 := r.2.2.2.set 0 r.1 })) := rfl

theorem mlsaDf_eq (st : MlsaSt K) (x alpha : K) (c : List K) :
    mlsaDf st x alpha c = mlsaDf2 (mlsaDf1 st x alpha c).2 (mlsaDf1 st x alpha c).1 alpha c := rfl

theorem mlsaDf1_shape (st : MlsaSt K) (x alpha : K) (c : List K) :
    (mlsaDf1 st x alpha c).2.d11.length = st.d11.length ∧
      (mlsaDf1 st x alpha c).2.d12.length = st.d12.length ∧
      (mlsaDf1 st x alpha c).2.d21 = st.d21 ∧ (mlsaDf1 st x alpha c).2.d22 = st.d22 := by
  simp only [mlsaDf1_fold, List.foldl_cons, List.foldl_nil, df1Step, List.length_set, and_self]

theorem mlsaDf2_shape (st : MlsaSt K) (x alpha : K) (c : List K) :
    (mlsaDf2 st x alpha c).2.d11 = st.d11 ∧ (mlsaDf2 st x alpha c).2.d12 = st.d12 ∧
      (mlsaDf2 st x alpha c).2.d21.length = st.d21.length ∧
      (mlsaDf2 st x alpha c).2.d22.length = st.d22.length := by
  simp only [mlsaDf2_fold, List.foldl_cons, List.foldl_nil, df2Step, List.length_set, and_self]

/-- the shape `MelLogSpectrumApproximation::new` creates: six taps and six delays in either stage -/
def MlsaSt.SixTaps (st : MlsaSt K) : Prop :=
  st.d11.length = 6 ∧ st.d12.length = 6 ∧ st.d21.length = 6 ∧ st.d22.length = 6

theorem MlsaSt.SixTaps.init (nmcp : Nat) : (MlsaSt.init nmcp : MlsaSt K).SixTaps :=
  ⟨List.length_replicate, List.length_replicate, List.length_replicate, List.length_replicate⟩

theorem MlsaSt.init_d21_getD (nmcp : Nat) {i : Nat} (hi : i < 6) :
    (MlsaSt.init nmcp : MlsaSt K).d21.getD i [] = List.replicate nmcp 0 :=
  List.getD_replicate _ hi

theorem MlsaSt.SixTaps.df1 {st : MlsaSt K} (h : st.SixTaps) (x alpha : K) (c : List K) :
    (mlsaDf1 st x alpha c).2.SixTaps :=
  have sh := mlsaDf1_shape st x alpha c
  ⟨sh.1.trans h.1, sh.2.1.trans h.2.1, (congrArg _ sh.2.2.1).trans h.2.2.1, (congrArg _ sh.2.2.2).trans h.2.2.2⟩

theorem MlsaSt.SixTaps.df2 {st : MlsaSt K} (h : st.SixTaps) (x alpha : K) (c : List K) :
    (mlsaDf2 st x alpha c).2.SixTaps :=
  have sh := mlsaDf2_shape st x alpha c
  ⟨(congrArg _ sh.1).trans h.1, (congrArg _ sh.2.1).trans h.2.1, sh.2.2.1.trans h.2.2.1, sh.2.2.2.trans h.2.2.2⟩

/-- `u = a•s + b•t` on filter states -/
structure MlsaSt.Lin (a b : K) (s t u : MlsaSt K) : Prop where
  d11 : Jb.Lin a b s.d11 t.d11 u.d11
  d12 : Jb.Lin a b s.d12 t.d12 u.d12
  d21 : Rel₃ (Jb.Lin a b) s.d21 t.d21 u.d21
  d22 : Jb.Lin a b s.d22 t.d22 u.d22

/-- `r = a•p + b•q` on the accumulators `(x, out, delays, d)` of the two loops -/
def LinAcc {S : Type} (LS : S → S → S → Prop) (a b : K) (p q r : K × K × S × List K) : Prop :=
  r.1 = a * p.1 + b * q.1 ∧ r.2.1 = a * p.2.1 + b * q.2.1 ∧ LS p.2.2.1 q.2.2.1 r.2.2.1 ∧
    Lin a b p.2.2.2 q.2.2.2 r.2.2.2

/-- the update both loops make with a new tap `y`: `x ± y·p`, `out + y·p`, tap `i` := `y` -/
theorem LinAcc.step {S : Type} {LS : S → S → S → Prop} {a b : K} {p q r : K × K × S × List K}
    (h : LinAcc LS a b p q r) {y y' y'' : K} (hy : y'' = a * y + b * y') {s s' s'' : S} (hs : LS s s' s'')
    (c : K) (i : Nat) :
    LinAcc LS a b (if i % 2 = 1 then p.1 + y * c else p.1 + -(y * c), p.2.1 + y * c, s, p.2.2.2.set i y)
      (if i % 2 = 1 then q.1 + y' * c else q.1 + -(y' * c), q.2.1 + y' * c, s', q.2.2.2.set i y')
      (if i % 2 = 1 then r.1 + y'' * c else r.1 + -(y'' * c), r.2.1 + y'' * c, s'', r.2.2.2.set i y'') := by
  obtain ⟨hx, ho, -, hd⟩ := h
  refine ⟨?_, ?_, hs, hd.set hy i⟩
  · simp only [hx, hy]; split_ifs <;> ring
  · simp only [ho, hy]; ring

theorem df1Step_lin {a b : K} {s t u : MlsaSt K} (h12 : Lin a b s.d12 t.d12 u.d12) (alpha : K) (c : List K)
    {p q r : K × K × List K × List K} (i : Nat) (h : LinAcc (Lin a b) a b p q r) :
    LinAcc (Lin a b) a b (df1Step s alpha c p i) (df1Step t alpha c q i) (df1Step u alpha c r i) := by
  have hn : (1 - alpha * alpha) * u.d12.getD (i - 1) 0 + alpha * r.2.2.1.getD i 0 =
      a * ((1 - alpha * alpha) * s.d12.getD (i - 1) 0 + alpha * p.2.2.1.getD i 0) +
        b * ((1 - alpha * alpha) * t.d12.getD (i - 1) 0 + alpha * q.2.2.1.getD i 0) := by
    rw [h12.getD, h.2.2.1.getD]; ring
  exact h.step (by rw [hn]; ring) (h.2.2.1.set hn i) _ i

theorem df2Step_lin {a b : K} {s t u : MlsaSt K} (h22 : Lin a b s.d22 t.d22 u.d22) (alpha : K) (c : List K)
    {p q r : K × K × List (List K) × List K} (i : Nat) (h : LinAcc (Rel₃ (Lin a b)) a b p q r) :
    LinAcc (Rel₃ (Lin a b)) a b (df2Step s alpha c p i) (df2Step t alpha c q i) (df2Step u alpha c r i) := by
  have hf := fir_lin (h.2.2.1.getD .nil (i - 1)) (s.d22.getD (i - 1) 0) (t.d22.getD (i - 1) 0) alpha c
  rw [← h22.getD] at hf
  exact h.step hf.1 (h.2.2.1.set hf.2 _) _ i

theorem mlsaDf1_lin {a b : K} {s t u : MlsaSt K} (h : MlsaSt.Lin a b s t u) (x y alpha : K) (c : List K) :
    (mlsaDf1 u (a * x + b * y) alpha c).1 = a * (mlsaDf1 s x alpha c).1 + b * (mlsaDf1 t y alpha c).1 ∧
      MlsaSt.Lin a b (mlsaDf1 s x alpha c).2 (mlsaDf1 t y alpha c).2 (mlsaDf1 u (a * x + b * y) alpha c).2 := by
  obtain ⟨h1, h2, h3, h4⟩ := foldl_rel₃ (R := LinAcc (Lin a b) a b) (df1Step_lin h.d12 alpha c) [5, 4, 3, 2, 1]
    (p := (x, 0, s.d11, s.d12)) (q := (y, 0, t.d11, t.d12)) (r := (a * x + b * y, 0, u.d11, u.d12))
    ⟨rfl, by ring, h.d11, h.d12⟩
  simp only [mlsaDf1_fold]
  refine ⟨by rw [h1, h2]; ring, ?_⟩
  -- the fields of the updated records are projected first: given the whole tuple, `exact` makes the unifier
  -- evaluate the five-step folds
  constructor <;> dsimp only
  exacts [h3, h4.set h1 0, h.d21, h.d22]

theorem mlsaDf2_lin {a b : K} {s t u : MlsaSt K} (h : MlsaSt.Lin a b s t u) (x y alpha : K) (c : List K) :
    (mlsaDf2 u (a * x + b * y) alpha c).1 = a * (mlsaDf2 s x alpha c).1 + b * (mlsaDf2 t y alpha c).1 ∧
      MlsaSt.Lin a b (mlsaDf2 s x alpha c).2 (mlsaDf2 t y alpha c).2 (mlsaDf2 u (a * x + b * y) alpha c).2 := by
  obtain ⟨h1, h2, h3, h4⟩ := foldl_rel₃ (R := LinAcc (Rel₃ (Lin a b)) a b) (df2Step_lin h.d22 alpha c) [5, 4, 3, 2, 1]
    (p := (x, 0, s.d21, s.d22)) (q := (y, 0, t.d21, t.d22)) (r := (a * x + b * y, 0, u.d21, u.d22))
    ⟨rfl, by ring, h.d21, h.d22⟩
  simp only [mlsaDf2_fold]
  refine ⟨by rw [h1, h2]; ring, ?_⟩
  constructor <;> dsimp only  -- as in `mlsaDf1_lin`
  exacts [h.d11, h.d12, h3, h4.set h1 0]

theorem mlsaDf_lin {a b : K} {s t u : MlsaSt K} (h : MlsaSt.Lin a b s t u) (x y alpha : K) (c : List K) :
    (mlsaDf u (a * x + b * y) alpha c).1 = a * (mlsaDf s x alpha c).1 + b * (mlsaDf t y alpha c).1 ∧
      MlsaSt.Lin a b (mlsaDf s x alpha c).2 (mlsaDf t y alpha c).2 (mlsaDf u (a * x + b * y) alpha c).2 := by
  have h1 := mlsaDf1_lin h x y alpha c
  have h2 := mlsaDf2_lin h1.2 (mlsaDf1 s x alpha c).1 (mlsaDf1 t y alpha c).1 alpha c
  rwa [← h1.1] at h2

theorem fir_zero (d : List K) (x alpha : K) (c : List K) (hc : ∀ y ∈ c, y = 0) : (fir d x alpha c).1 = 0 := by
  rw [fir_fst]
  exact Finset.sum_eq_zero fun i _ => by rw [getD_of_all_zero hc, zero_mul]

/-- a loop whose every step adds `±0`, `0` to `(x, out)` returns `x + 0` -/
theorem foldl_keeps_x_out {S ι : Type} (step : K × K × S × List K → ι → K × K × S × List K)
    (h : ∀ r i, ((step r i).1, (step r i).2.1) = (r.1, r.2.1)) (l : List ι) (x : K) (s : S) (d : List K) :
    (l.foldl step (x, 0, s, d)).1 + (l.foldl step (x, 0, s, d)).2.1 = x := by
  obtain ⟨e1, e2⟩ := Prod.mk.inj <| foldl_measure_eq (fun r : K × K × S × List K => (r.1, r.2.1)) step h l (x, 0, s, d)
  rw [e1, e2, add_zero]

theorem mlsaDf1_zero (st : MlsaSt K) (x alpha : K) (c : List K) (hc : ∀ y ∈ c, y = 0) :
    (mlsaDf1 st x alpha c).1 = x := by
  rw [mlsaDf1_fold]
  exact foldl_keeps_x_out _ (fun r i => by
    simp only [df1Step, getD_of_all_zero hc, mul_zero, zero_mul, add_zero, neg_zero, ite_self]) _ x _ _

theorem mlsaDf2_zero (st : MlsaSt K) (x alpha : K) (c : List K) (hc : ∀ y ∈ c, y = 0) :
    (mlsaDf2 st x alpha c).1 = x := by
  rw [mlsaDf2_fold]
  exact foldl_keeps_x_out _ (fun r i => by
    simp only [df2Step, fir_zero _ _ _ _ hc, zero_mul, add_zero, neg_zero, ite_self]) _ x _ _

theorem mlsaDf_zero (st : MlsaSt K) (x alpha : K) (c : List K) (hc : ∀ y ∈ c, y = 0) :
    (mlsaDf st x alpha c).1 = x := by
  rw [mlsaDf_eq, mlsaDf2_zero _ _ _ _ hc, mlsaDf1_zero _ _ _ _ hc]

theorem fir_rest (n : Nat) (alpha : K) (c : List K) :
    fir (List.replicate n 0) 0 alpha c = (0, List.replicate n 0) := by
  -- a linear step maps 0 to 0: linearity at `a = b = 0`
  have h := fir_lin (Rel₃.replicate (by ring : (0 : K) = 0 * 0 + 0 * 0) n) 0 0 alpha c
  simp only [mul_zero, add_zero, zero_mul] at h
  exact Prod.ext h.1 (by rw [h.2.zero_eq, fir_snd_length, List.length_replicate])

/-- zero in, zero out: the state `MelLogSpectrumApproximation::new` creates is the filter at rest -/
theorem mlsaDf_rest (alpha : K) (c : List K) (nmcp : Nat) :
    mlsaDf (MlsaSt.init nmcp) 0 alpha c = (0, MlsaSt.init nmcp) := by
  have h1 : mlsaDf1 (MlsaSt.init nmcp) 0 alpha c = (0, MlsaSt.init nmcp) := by
    rw [mlsaDf1_fold, foldl_fixed _ _ _ fun i _ => ?_]
    · simp only [MlsaSt.init, add_zero, List.set_replicate_self]
    · simp only [df1Step, MlsaSt.init, getD_replicate_default, mul_zero, add_zero, zero_mul, neg_zero, ite_self,
        List.set_replicate_self]
  have h2 : mlsaDf2 (MlsaSt.init nmcp) 0 alpha c = (0, MlsaSt.init nmcp) := by
    rw [mlsaDf2_fold, foldl_fixed _ _ _ fun i hi => ?_]
    · simp only [MlsaSt.init, add_zero, List.set_replicate_self]
    · have hi' : i - 1 < 6 := by simp only [List.mem_cons, List.not_mem_nil, or_false] at hi; omega
      simp only [df2Step, MlsaSt.init_d21_getD nmcp hi']
      simp only [MlsaSt.init, getD_replicate_default, fir_rest, add_zero, zero_mul, neg_zero, ite_self,
        List.set_replicate_self]
  simp only [mlsaDf, h1, h2]

/-- run the filter over a signal with frozen coefficients -/
def mlsaRun (alpha : K) (c : List K) : MlsaSt K → List K → List K
  | _, [] => []
  | st, x :: xs => let r := mlsaDf st x alpha c; r.1 :: mlsaRun alpha c r.2 xs

theorem MlsaSt.lin_init (a b : K) (nmcp : Nat) :
    MlsaSt.Lin a b (MlsaSt.init nmcp) (MlsaSt.init nmcp) (MlsaSt.init nmcp) :=
  have h : (0 : K) = a * 0 + b * 0 := by ring
  ⟨.replicate h 6, .replicate h 6, .replicate (.replicate h nmcp) 6, .replicate h 6⟩

theorem mlsaRun_isLTI (alpha : K) (c : List K) (nmcp : Nat) : IsLTI (mlsaRun alpha c (MlsaSt.init nmcp)) :=
  IsLTI.of_step (f := fun st x => mlsaDf st x alpha c) (fun _ => rfl) (fun _ _ _ => rfl)
    (L := MlsaSt.Lin) (fun x y h => mlsaDf_lin h x y alpha c) _ (fun a b => MlsaSt.lin_init a b nmcp)
    (mlsaDf_rest alpha c nmcp)

def mlsaPulse (alpha : K) (c : List K) (nmcp len : Nat) : List K :=
  mlsaRun alpha c (MlsaSt.init nmcp) ((List.range len).map fun i => if i = 0 then 1 else 0)

def MlsaSt.smul (a : K) (st : MlsaSt K) : MlsaSt K :=
  { d11 := st.d11.map (a * ·), d12 := st.d12.map (a * ·), d21 := st.d21.map (·.map (a * ·)), d22 := st.d22.map (a * ·) }

theorem MlsaSt.lin_smul (a : K) (s : MlsaSt K) : MlsaSt.Lin a 0 s s (MlsaSt.smul a s) :=
  ⟨Lin.smul a _, Lin.smul a _, Rel₃.map_self (fun r => Lin.smul a r) _, Lin.smul a _⟩

theorem MlsaSt.Lin.smul_eq {a : K} {s t u : MlsaSt K} (h : MlsaSt.Lin a 0 s t u) : u = MlsaSt.smul a s := by
  obtain ⟨d11, d12, d21, d22⟩ := u
  simp only [MlsaSt.smul, MlsaSt.mk.injEq]
  exact ⟨h.d11.smul_eq, h.d12.smul_eq, h.d21.eq_map fun _ _ _ hr => Jb.Lin.smul_eq hr, h.d22.smul_eq⟩

/-! ### the same over the scalar context of `Jb/Props` (an ordered field with `Transc`, `Consts`) -/

section
variable [LinearOrder K] [IsStrictOrderedRing K] [Transc K] [Consts K]
set_option linter.unusedSectionVars false

theorem mlsaDf1_eq (st : MlsaSt K) (x alpha : K) (c : List K) :
    mlsaDf1 st x alpha c =
      (let r := [5, 4, 3, 2, 1].foldl (df1Step st alpha c) (x, 0, st.d11, st.d12)
       (r.1 + r.2.1, { st with d11 := r.2.2.1, d12 := r.2.2.2.set 0 r.1 })) := mlsaDf1_fold st x alpha c

theorem mlsaDf2_eq (st : MlsaSt K) (x alpha : K) (c : List K) :
    mlsaDf2 st x alpha c =
      (let r := [5, 4, 3, 2, 1].foldl (df2Step st alpha c) (x, 0, st.d21, st.d22)
       (r.1 + r.2.1, { st with d21 := r.2.2.1, d22 := r.2.2.2.set 0 r.1 })) := mlsaDf2_fold st x alpha c

/-- the shape is preserved, so the statement iterates over a whole signal -/
theorem mlsaDf_shape (st : MlsaSt K) (x alpha : K) (c : List K)
    (h11 : st.d11.length = 6) (h12 : st.d12.length = 6) (h21 : st.d21.length = 6) (h22 : st.d22.length = 6) :
    let st' := (mlsaDf st x alpha c).2
    st'.d11.length = 6 ∧ st'.d12.length = 6 ∧ st'.d21.length = 6 ∧ st'.d22.length = 6 := by
  show (mlsaDf st x alpha c).2.SixTaps
  rw [mlsaDf_eq]
  exact (MlsaSt.SixTaps.df1 ⟨h11, h12, h21, h22⟩ x alpha c).df2 (mlsaDf1 st x alpha c).1 alpha c

-- holds in every state: the shape hypotheses are not used
set_option linter.unusedVariables false in
/-- **Homogeneity of one MLSA sample.** -/
theorem mlsaDf_smul (a : K) (st : MlsaSt K) (x alpha : K) (c : List K)
    (h11 : st.d11.length = 6) (h12 : st.d12.length = 6) (h21 : st.d21.length = 6) (h22 : st.d22.length = 6) :
    mlsaDf (MlsaSt.smul a st) (a * x) alpha c =
      (a * (mlsaDf st x alpha c).1, MlsaSt.smul a (mlsaDf st x alpha c).2) := by
  have h := mlsaDf_lin (MlsaSt.lin_smul a st) x x alpha c
  simp only [zero_mul, add_zero] at h
  exact Prod.ext h.1 h.2.smul_eq

end

end Jb
