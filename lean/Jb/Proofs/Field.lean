/-
  The model's scalar layer over a linearly ordered field: the zero tests, `clampS`, `maxS` and `sumS` are
  what they look like, and the rounding class is instantiated with a floor function.
  `roundMax1 x = max 1 ⌊x + 1/2⌋₊` equals Rust's `x.round().max(1.0) as usize` for every real `x`
  (round-half-away-from-zero and `⌊x+½⌋` agree for `x ≥ 0`; for `x < ½` both sides are 1).
-/
import Jb.Model.Vocoder
import Jb.Model.Mlpg
import Mathlib.Algebra.Order.Floor.Ring

namespace Jb

section
variable {K : Type} [Field K] [LinearOrder K]

theorem isZeroS_iff (x : K) : isZeroS x = true ↔ x = 0 := by
  unfold isZeroS
  simp only [Bool.and_eq_true, Bool.not_eq_true', decide_eq_false_iff_not, not_lt, decide_eq_true_eq]
  constructor
  · rintro ⟨⟨h1, h2⟩, _⟩; exact le_antisymm h2 h1
  · rintro rfl; exact ⟨⟨le_refl _, le_refl _⟩, le_refl _⟩

theorem isZeroS_zero : isZeroS (0 : K) = true := (isZeroS_iff 0).mpr rfl

theorem isZeroS_of_ne {x : K} (h : x ≠ 0) : isZeroS x = false :=
  Bool.eq_false_iff.2 fun hb => h ((isZeroS_iff x).1 hb)

/-- `isZero` (`Jb/Model/Mlpg.lean`) and `isZeroS` (`Jb/Model/Vocoder.lean`) have the same body -/
theorem isZero_iff (x : K) : isZero x = true ↔ x = 0 := isZeroS_iff x

omit [LinearOrder K] in
theorem sumS_eq_sum (l : List K) : sumS l = l.sum := List.sum_eq_foldl.symm

end

section
variable {K : Type} [LinearOrder K]

theorem clampS_eq (x lo hi : K) (h : lo ≤ hi) : clampS x lo hi = max lo (min x hi) := by
  unfold clampS
  split_ifs with h1 h2
  · rw [max_eq_left (le_trans (min_le_left _ _) h1.le)]
  · rw [min_eq_right h2.le, max_eq_right h]
  · rw [min_eq_left (not_lt.mp h2), max_eq_right (not_lt.mp h1)]

theorem clampS_mem (x lo hi : K) (h : lo ≤ hi) : lo ≤ clampS x lo hi ∧ clampS x lo hi ≤ hi := by
  rw [clampS_eq x lo hi h]; exact ⟨le_max_left _ _, max_le h (min_le_right _ _)⟩

theorem clampS_of_mem {x lo hi : K} (h1 : lo ≤ x) (h2 : x ≤ hi) : clampS x lo hi = x := by
  unfold clampS; rw [if_neg (not_lt.mpr h1), if_neg (not_lt.mpr h2)]

theorem maxS_eq (x lo : K) : maxS x lo = max x lo := by
  unfold maxS
  split_ifs with h
  · rw [max_eq_right h.le]
  · rw [max_eq_left (not_lt.mp h)]

end

instance fieldRoundNat {K : Type} [Field K] [LinearOrder K] [IsStrictOrderedRing K] [FloorRing K] :
    RoundNat K := ⟨fun x => max 1 ⌊x + 1 / 2⌋₊⟩

section
variable {K : Type} [Field K] [LinearOrder K] [IsStrictOrderedRing K] [FloorRing K]

theorem roundMax1_def (x : K) : RoundNat.roundMax1 x = max 1 ⌊x + 1 / 2⌋₊ := rfl

theorem roundMax1_pos (x : K) : 1 ≤ RoundNat.roundMax1 x := le_max_left _ _

theorem roundMax1_mono {x y : K} (h : x ≤ y) : RoundNat.roundMax1 x ≤ RoundNat.roundMax1 y :=
  max_le_max le_rfl (Nat.floor_mono (add_le_add_left h _))

theorem floor_half_sub_natCast (x : K) (c : Nat) : ⌊x - (c : K) + 1 / 2⌋₊ = ⌊x + 1 / 2⌋₊ - c := by
  rw [sub_add_eq_add_sub, Nat.floor_sub_natCast]

theorem add_roundMax1_sub_natCast (e : K) (c : Nat) (h : 1 ≤ ⌊e + 1 / 2⌋₊ - c) :
    c + RoundNat.roundMax1 (e - (c : K)) = ⌊e + 1 / 2⌋₊ := by
  rw [roundMax1_def, floor_half_sub_natCast]
  omega

end

end Jb
