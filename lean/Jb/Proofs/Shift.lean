/-
  C15 at trajectory level. Adding a constant `h` to every static mean leaves the band matrix `A = W'PW` alone and
  moves the right-hand side `W'Pμ` by `h` times the static precisions, which are the row sums of `A` when the
  dynamic windows' coefficients sum to zero (delta windows do): `MlpgProblem.calc_shiftStatic`. What the solver and
  the GV iteration make of such a system is `Jb/Proofs/GvShift.lean`.
-/
import Jb.Proofs.MlpgMl

namespace Jb

section
variable {K : Type} [Field K]
open Finset

/-- the observations with `h` added to the static means (first window), everything else unchanged -/
def shiftStatic (obs : List (List (MeanVari K))) (h : K) : List (List (MeanVari K)) :=
  match obs with
  | [] => []
  | o0 :: os => (o0.map fun mv => ⟨mv.mean + h, mv.vari⟩) :: os

theorem shift_getD_vari (o : List (MeanVari K)) (h : K) (i : Nat) :
    ((o.map fun mv => (⟨mv.mean + h, mv.vari⟩ : MeanVari K)).getD i ⟨0, 0⟩).vari = (o.getD i ⟨0, 0⟩).vari := by
  rcases Nat.lt_or_ge i o.length with hi | hi
  · rw [List.getD_eq_getElem _ _ (by simpa using hi), List.getD_eq_getElem _ _ hi, List.getElem_map]
  · rw [List.getD_eq_default _ _ (by simpa using hi), List.getD_eq_default _ _ hi]

theorem shift_getD_mean (o : List (MeanVari K)) (h : K) (i : Nat) (hi : i < o.length) :
    ((o.map fun mv => (⟨mv.mean + h, mv.vari⟩ : MeanVari K)).getD i ⟨0, 0⟩).mean = (o.getD i ⟨0, 0⟩).mean + h :=
  congrArg MeanVari.mean (getD_map_of_lt _ o hi _ _)

/-- an observation whose span lies inside `[0, T)` sees all its coefficients -/
theorem winCoef_sum (w : List K) (T s : Nat) (hl : w.length / 2 ≤ s) (hr : s + (w.length - 1 - w.length / 2) < T) :
    ∑ t' ∈ range T, winCoef w s t' = w.sum := by
  rw [sum_eq_sum_range_getD]
  unfold winCoef
  rw [← sum_filter]
  -- `t' ↦ t' + half − s` is a bijection from the frames inside the span onto the taps, with inverse `k ↦ k + s − half`
  refine sum_nbij' (fun t' => t' + w.length / 2 - s) (fun k => k + s - w.length / 2) ?mapsTo ?mapsBack ?leftInv
    ?rightInv fun _ _ => rfl
  all_goals
    intro i hi
    simp only [mem_filter, mem_range] at hi ⊢
  case mapsTo => omega
  case mapsBack => omega
  case leftInv => omega
  case rightInv => omega

/-! ### the shift seen by `W'PW` (not at all) and by `W'Pμ` (`h` times the row sums of `W'PW`) -/

section
variable (ws : List (List K)) (o0 : List (MeanVari K)) (os : List (List (MeanVari K))) (h : K) (T : Nat)

theorem shift_wpwEntry (t t' : Nat) :
    wpwEntry (([1] : List K) :: ws) (shiftStatic (o0 :: os) h) T t t' =
      wpwEntry (([1] : List K) :: ws) (o0 :: os) T t t' := by
  unfold wpwEntry shiftStatic
  simp only [List.zip_cons_cons, List.map_cons, List.sum_cons, shift_getD_vari]

/-- **row sums**: with zero-sum dynamic windows, row `t` of `W'PW` sums to the static precision at `t` -/
theorem wpwEntry_rowsum (hedge : EdgeZero (([1] : List K) :: ws) (o0 :: os) T) (hsum : ∀ w ∈ ws, w.sum = 0)
    (t : Nat) (ht : t < T) :
    ∑ t' ∈ range T, wpwEntry (([1] : List K) :: ws) (o0 :: os) T t t' = (o0.getD t ⟨0, 0⟩).vari := by
  -- per window: `Σ_t' Σ_s p_s a_st a_st' = Σ_s p_s a_st (Σ_t' a_st')`, and the inner sum is `Σ w` unless `p_s = 0`
  have hwin : ∀ wo ∈ (([1] : List K) :: ws).zip (o0 :: os),
      ∑ t' ∈ range T, ∑ s ∈ range T, (wo.2.getD s ⟨0, 0⟩).vari * winCoef wo.1 s t * winCoef wo.1 s t' =
        (∑ s ∈ range T, (wo.2.getD s ⟨0, 0⟩).vari * winCoef wo.1 s t) * wo.1.sum := by
    intro wo hwo
    rw [sum_comm, sum_mul]
    refine sum_congr rfl fun s hs => ?_
    rw [← mul_sum]
    by_cases hcut : s < wo.1.length / 2 ∨ T ≤ s + (wo.1.length - 1 - wo.1.length / 2)
    · rw [hedge wo hwo s (mem_range.mp hs) hcut, zero_mul, zero_mul, zero_mul]
    · rw [winCoef_sum wo.1 T s (by omega) (by omega)]
  unfold wpwEntry
  rw [sum_range_sum_map, List.map_congr_left hwin, List.zip_cons_cons, List.map_cons, List.sum_cons]
  dsimp only
  rw [List.sum_singleton, mul_one, sum_winCoef_static T t ht, List.sum_eq_zero, add_zero]
  intro a ha
  obtain ⟨wo, hwo, rfl⟩ := List.mem_map.mp ha
  rw [hsum wo.1 (List.of_mem_zip hwo).1, mul_zero]

theorem shift_wpmEntry (t : Nat) (hT : o0.length = T) (ht : t < T) :
    wpmEntry (([1] : List K) :: ws) (shiftStatic (o0 :: os) h) T t =
      wpmEntry (([1] : List K) :: ws) (o0 :: os) T t + h * (o0.getD t ⟨0, 0⟩).vari := by
  unfold wpmEntry shiftStatic
  simp only [List.zip_cons_cons, List.map_cons, List.sum_cons]
  rw [add_right_comm, ← sum_winCoef_static T t ht fun s => h * (o0.getD s ⟨0, 0⟩).vari, ← sum_add_distrib]
  refine congrArg (· + _) (sum_congr rfl fun s hs => ?_)
  rw [shift_getD_vari, shift_getD_mean o0 h s (hT ▸ mem_range.mp hs)]
  ring

end

variable [LinearOrder K]

/-- every hypothesis reads lengths and precisions only -/
theorem MlpgProblem.shifted {windows : List (List K)} {obs : List (List (MeanVari K))} {T : Nat}
    (P : MlpgProblem windows obs T) (h : K) : MlpgProblem windows (shiftStatic obs h) T := by
  obtain ⟨ws, o0, os, rfl, rfl⟩ := P.cons_form
  obtain ⟨hstatic, hlen, hobs, hedge, hnonneg, hpos⟩ := P
  refine ⟨hstatic, by simpa [shiftStatic] using hlen, ?_, ?_, ?_, ?_⟩
  · intro o ho
    rcases List.mem_cons.mp ho with rfl | ho
    · rw [List.length_map]; exact hobs o0 List.mem_cons_self
    · exact hobs o (List.mem_cons_of_mem _ ho)
  · intro wo hwo s hs hcut
    rcases List.mem_cons.mp hwo with rfl | hwo
    · exact (shift_getD_vari o0 h s).trans (hedge (_, o0) List.mem_cons_self s hs hcut)
    · exact hedge wo (List.mem_cons_of_mem _ hwo) s hs hcut
  · intro o ho mv hmv
    rcases List.mem_cons.mp ho with rfl | ho
    · obtain ⟨mv0, hmv0, rfl⟩ := List.mem_map.mp hmv
      exact hnonneg o0 List.mem_cons_self mv0 hmv0
    · exact hnonneg o (List.mem_cons_of_mem _ ho) mv hmv
  · intro mv hmv
    obtain ⟨mv0, hmv0, rfl⟩ := List.mem_map.mp hmv
    exact hpos mv0 hmv0

end

section
variable {K : Type} [Field K] [LinearOrder K] [IsStrictOrderedRing K]
open Finset

variable {windows : List (List K)} {obs : List (List (MeanVari K))} {T : Nat}

/-- **the shifted observations give the same matrix, with the right-hand side moved by `h` times the row sums** -/
theorem MlpgProblem.calc_shiftStatic (P : MlpgProblem windows obs T) (hsum : ∀ w ∈ windows.tail, w.sum = 0) (h : K)
    {m m' : MlpgMatrix K} (hm : calcWuwWum windows obs = some m)
    (hm' : calcWuwWum windows (shiftStatic obs h) = some m') :
    m' = { m with wum := m'.wum } ∧ m'.wum.length = T ∧
      ∀ t, t < T → m'.wum.getD t 0 = m.wum.getD t 0 + h * ∑ t' ∈ range T, wpwEntry windows obs T t t' := by
  obtain ⟨ws, o0, os, rfl, rfl⟩ := P.cons_form
  obtain ⟨rfl, -⟩ := P.calc hm
  obtain ⟨rfl, -⟩ := (P.shifted h).calc hm'
  refine ⟨?_, by simp, fun t ht => ?_⟩
  · rw [assembledRows_congr _ _ T _ (length_le_maxWidth _) P.edge _ (P.shifted h).edge (shift_wpwEntry ws o0 os h T)]
  · rw [List.getD_eq_getElem _ _ (by simpa using ht), List.getD_eq_getElem _ _ (by simpa using ht),
      List.getElem_map, List.getElem_map, List.getElem_range,
      shift_wpmEntry ws o0 os h T t (P.obs_length o0 List.mem_cons_self) ht,
      wpwEntry_rowsum ws o0 os T P.edge hsum t ht]

end

end Jb
