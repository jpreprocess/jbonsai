/-
  The composed pipeline model (`Jb/Model/Engine.lean`) for arbitrary inputs, stage by stage: for each of
  `engineDurations`, `engineStream`, `engineParams` and `engineSynthesize` its defining equation, stated once,
  and what it reads of the condition (non-interference). Well-formed inputs (no panic) are
  `Jb/Proofs/Total.lean`.
-/
import Jb.Model.Engine
import Jb.Proofs.MlpgShape
import Jb.Proofs.VocoderFrame
import Jb.Proofs.Speech
import Jb.Proofs.Outcome

namespace Jb

section
variable {α : Type} [Add α] [Sub α] [Mul α] [Div α] [Neg α] [OfNat α 0] [NatCast α]
  [LT α] [DecidableLT α] [LE α] [DecidableLE α] [RoundNat α]

theorem engineDurations_align {c : Condition α} (h : c.alignment = true) (b : Bool) (inp : EngineIn α) :
    engineDurations c b inp = createWithAlignment true inp.duration inp.nstate inp.times := by
  rw [engineDurations, if_pos h]

theorem engineDurations_speed {c : Condition α} (h : c.alignment = false) (b : Bool) (inp : EngineIn α) :
    engineDurations c b inp = durationCreate inp.duration c.speed b := by
  rw [engineDurations, if_neg (by rw [h]; exact Bool.false_ne_true)]

theorem engineDurations_congr (c c' : Condition α) (b : Bool) (inp : EngineIn α)
    (ha : c.alignment = c'.alignment) (hs : c.speed = c'.speed) :
    engineDurations c b inp = engineDurations c' b inp := by
  unfold engineDurations
  rw [ha, hs]

end

/-! ### one stream: the half tone on log-F0, then MLPG -/

section
variable {K : Type} [Field K] [LinearOrder K] [Consts K]

theorem applyHalfTone_zero (stream : List (StateParam K)) : applyHalfTone stream 0 = stream := by
  unfold applyHalfTone
  rw [if_pos ((isZero_iff (0 : K)).2 rfl)]

/-- `apply_additional_half_tone`: the static mean of every state becomes `clamp(m + h·HALF_TONE)`;
    variances, dynamic means and MSD weights are untouched. -/
theorem applyHalfTone_spec (stream : List (StateParam K)) (h : K) (hh : h ≠ 0) :
    applyHalfTone stream h = stream.map fun s =>
      match s.params with
      | [] => s
      | p :: rest =>
        { s with params := ⟨clampS (p.mean + h * Consts.halfTone) Consts.minLf0 Consts.maxLf0, p.vari⟩ :: rest } := by
  unfold applyHalfTone
  rw [if_neg (fun h0 => hh ((isZero_iff h).1 h0))]
  rfl

theorem applyHalfTone_mask (stream : List (StateParam K)) (h thr : K) (durs : List Nat) :
    maskCreate (applyHalfTone stream h) thr durs = maskCreate stream thr durs := by
  unfold applyHalfTone
  split
  · rfl
  · unfold maskCreate
    rw [List.map_map]
    congr 1
    apply List.map_congr_left
    intro s _
    rcases s with ⟨_ | ⟨p, rest⟩, msd⟩ <;> rfl

theorem applyHalfTone_length (stream : List (StateParam K)) (h : K) :
    (applyHalfTone stream h).length = stream.length := by
  unfold applyHalfTone
  split <;> simp

theorem applyHalfTone_varis (stream : List (StateParam K)) (h : K) (st : StateParam K)
    (hst : st ∈ applyHalfTone stream h) : ∃ st' ∈ stream, st.params.map (·.vari) = st'.params.map (·.vari) := by
  unfold applyHalfTone at hst
  split at hst
  · exact ⟨st, hst, rfl⟩
  · obtain ⟨st', hm, rfl⟩ := List.mem_map.1 hst
    exact ⟨st', hm, by rcases st' with ⟨_ | ⟨p, rest⟩, msd⟩ <;> rfl⟩

theorem applyHalfTone_params_length (stream : List (StateParam K)) (h : K) (st : StateParam K)
    (hst : st ∈ applyHalfTone stream h) : ∃ st' ∈ stream, st.params.length = st'.params.length :=
  let ⟨st', hm, e⟩ := applyHalfTone_varis stream h st hst
  ⟨st', hm, by simpa only [List.length_map] using congrArg List.length e⟩

omit [Consts K] in
theorem withIvar_vari_congr [MlpgConsts K] (p q : MeanVari K) (h : p.vari = q.vari) :
    (withIvar p).vari = (withIvar q).vari := by
  unfold withIvar; simp only [h]

/-! `mlpgStates` is named in `Synth` because the statements about the whole library
    (`Jb/Proofs/SynthBridge.lean`, C05, C15) are phrased with it. -/

namespace Synth

/-- the state Gaussians stream `j` hands to MLPG: log-F0 (`j = 1`) after `apply_additional_half_tone` -/
def mlpgStates (c : Condition K) (s : StreamIn K) (j : Nat) : List (StateParam K) :=
  if j = 1 then applyHalfTone s.stream c.halfTone else s.stream

theorem mlpgStates_eq (c : Condition K) (s : StreamIn K) (j : Nat) :
    mlpgStates c s j = applyHalfTone s.stream (if j = 1 then c.halfTone else 0) := by
  unfold mlpgStates
  split_ifs
  · rfl
  · exact (applyHalfTone_zero _).symm

theorem mlpgStates_length (c : Condition K) (s : StreamIn K) (j : Nat) :
    (mlpgStates c s j).length = s.stream.length := by
  rw [mlpgStates_eq, applyHalfTone_length]

theorem mlpgStates_mask (c : Condition K) (s : StreamIn K) (j : Nat) (thr : K) (durs : List Nat) :
    maskCreate (mlpgStates c s j) thr durs = maskCreate s.stream thr durs := by
  rw [mlpgStates_eq, applyHalfTone_mask]

theorem mlpgStates_varis (c : Condition K) (s : StreamIn K) (j : Nat) (st : StateParam K)
    (hst : st ∈ mlpgStates c s j) : ∃ st' ∈ s.stream, st.params.map (·.vari) = st'.params.map (·.vari) :=
  applyHalfTone_varis _ _ st (mlpgStates_eq c s j ▸ hst)

/-- the precision `(withIvar p).vari` is a function of the variance alone -/
theorem mlpgStates_precisions [MlpgConsts K] (c : Condition K) (s : StreamIn K) (j : Nat) (st : StateParam K)
    (hst : st ∈ mlpgStates c s j) :
    ∃ st' ∈ s.stream, st.params.map (fun p => (withIvar p).vari) = st'.params.map (fun p => (withIvar p).vari) := by
  obtain ⟨st', hm, e⟩ := mlpgStates_varis c s j st hst
  have h : ∀ l : List (MeanVari K), l.map (fun p => (withIvar p).vari) =
      (l.map (·.vari)).map fun v => (withIvar ⟨0, v⟩).vari := fun l => by
    rw [List.map_map]; exact List.map_congr_left fun p _ => withIvar_vari_congr p ⟨0, p.vari⟩ rfl
  exact ⟨st', hm, by rw [h, h, e]⟩

theorem streamWF_mlpgStates {s : StreamIn K} (h : StreamWF s) (c : Condition K) (j : Nat) :
    StreamWF { s with stream := mlpgStates c s j } :=
  ⟨h.1, fun st hst =>
    let ⟨st', hm, e⟩ := applyHalfTone_params_length _ _ st (mlpgStates_eq c s j ▸ hst)
    e ▸ h.2 st' hm⟩

end Synth

variable [Transc K] [MlpgConsts K]

theorem engineStream_eq {c : Condition K} {inp : EngineIn K} {i : Nat} {s : StreamIn K} {gw thr : K}
    (hs : inp.streams[i]? = some s) (hg : c.gvWeight[i]? = some gw) (ht : c.msdThreshold[i]? = some thr)
    (durs : List Nat) :
    engineStream c inp durs i = mlpgCreate gw thr { s with stream := Synth.mlpgStates c s i } durs := by
  rw [engineStream, hs, hg, ht, Synth.mlpgStates]
  split_ifs <;> rfl

theorem engineStream_eq_ok {c : Condition K} {inp : EngineIn K} {durs : List Nat} {i : Nat}
    {rows : List (List K)} (h : engineStream c inp durs i = .ok rows) :
    ∃ s gw thr, inp.streams[i]? = some s ∧ c.gvWeight[i]? = some gw ∧ c.msdThreshold[i]? = some thr ∧
      mlpgCreate gw thr { s with stream := Synth.mlpgStates c s i } durs = .ok rows := by
  have h0 := h
  unfold engineStream at h
  split at h
  · rename_i s gw thr hs hg ht
    exact ⟨s, gw, thr, hs, hg, ht, (engineStream_eq hs hg ht durs).symm.trans h0⟩
  · exact nomatch h

theorem engineStream_congr (c c' : Condition K) (inp : EngineIn K) (durs : List Nat) (i : Nat)
    (hg : c.gvWeight[i]? = c'.gvWeight[i]?) (ht : c.msdThreshold[i]? = c'.msdThreshold[i]?)
    (hh : i = 1 → c.halfTone = c'.halfTone) :
    engineStream c inp durs i = engineStream c' inp durs i := by
  unfold engineStream
  rw [hg, ht]
  by_cases hi : i = 1
  · rw [hh hi]
  · simp only [hi, if_false]

theorem engineStream_set_gv_no_gv (c : Condition K) (inp : EngineIn K) (durs : List Nat) (j : Nat) (x : K)
    (hgv : ∀ s, inp.streams[j]? = some s → s.gv = none) :
    engineStream { c with gvWeight := c.gvWeight.set j x } inp durs j = engineStream c inp durs j := by
  by_cases hj : j < c.gvWeight.length
  · unfold engineStream
    rw [show (c.gvWeight.set j x)[j]? = some x by simp [hj], List.getElem?_eq_getElem hj]
    cases hs : inp.streams[j]? with
    | none => rfl
    | some s =>
      cases c.msdThreshold[j]? with
      | none => rfl
      | some thr => exact mlpgCreate_no_gv _ _ thr _ durs (by split_ifs <;> exact hgv s hs)
  · rw [List.set_eq_of_length_le (by omega)]

end

section
variable {K : Type} [Field K] [LinearOrder K] [Transc K] [Consts K]

theorem vocoderFrame_length (fx : Fix) (fp : Nat) (v : VocoderSt K) (f : List K × List K × List K) :
    (vocoderFrame fx fp v f).2.length = fp := by
  unfold vocoderFrame
  simp only
  rw [vocoderSynth_length]

theorem vocoderFrame_volume (fx : Fix) (fp : Nat) (g : K) (v : VocoderSt K) (f : List K × List K × List K) :
    vocoderFrame fx fp { v with volume := g } f =
      ({ (vocoderFrame fx fp { v with volume := 1 } f).1 with volume := g },
       (vocoderFrame fx fp { v with volume := 1 } f).2.map (· * g)) := by
  have h := vocoderSynth_volume fx { v with fperiod := fp } g (f.2.1.getD 0 0) f.1 f.2.2
  unfold vocoderFrame
  simp only
  rw [h]

end

section
variable {K : Type} [Field K] [LinearOrder K] [IsStrictOrderedRing K] [FloorRing K]
  [Transc K] [Consts K] [MlpgConsts K]

theorem engineParams_eq_ok_iff (c : Condition K) (b : Bool) (inp : EngineIn K) (p : GenParams K) :
    engineParams c b inp = .ok p ↔
      engineDurations c b inp = .ok p.durations ∧ engineStream c inp p.durations 0 = .ok p.spectrum ∧
      engineStream c inp p.durations 1 = .ok p.lf0 ∧
      if inp.nstream > 2 then engineStream c inp p.durations 2 = .ok p.lpf
      else p.lpf = p.lf0.map fun _ => [] := by
  obtain ⟨d, sp, lf0, lpf⟩ := p
  -- `engineParams` is a nest of matches on the durations and the trajectories; every branch but one is not `.ok`
  rw [engineParams]
  constructor
  · intro h
    split at h
    · rename_i durs hD
      split at h
      · rename_i sp' lf0' h0 h1
        split at h
        · rename_i hn
          split at h
          · rename_i lpf' h2
            cases h
            exact ⟨hD, h0, h1, by rw [if_pos hn]; exact h2⟩
          · cases h
          · cases h
        · rename_i hn
          cases h
          exact ⟨hD, h0, h1, by rw [if_neg hn]⟩
      · cases h
      · cases h
      · cases h
    · cases h
    · cases h
  · rintro ⟨hD, h0, h1, h2⟩
    dsimp only at hD h0 h1 h2
    rw [hD]; dsimp only; rw [h0, h1]; dsimp only
    split_ifs at h2 with hn
    · rw [if_pos hn, h2]
    · rw [if_neg hn, h2]

theorem engineParams_congr {c c' : Condition K} {b b' : Bool} {inp : EngineIn K}
    (hD : engineDurations c b inp = engineDurations c' b' inp)
    (hS : ∀ durs j, engineStream c inp durs j = engineStream c' inp durs j) :
    engineParams c b inp = engineParams c' b' inp := by
  unfold engineParams
  simp only [hD, hS]

/-- the vocoder `Engine::generator` builds -/
def engineVoc (c : Condition K) (inp : EngineIn K) : VocoderSt K :=
  VocoderSt.new ((inp.streams[0]?.map (·.vectorLength)).getD 0)
    (if inp.nstream > 2 then (inp.streams[2]?.map (·.vectorLength)).getD 0 else 0)
    c.stage c.useLogGain c.samplingFrequency c.alpha c.beta c.volume c.fperiod

/-- the frames `SpeechGenerator` walks through -/
def GenParams.frames (p : GenParams K) : List (List K × List K × List K) := p.spectrum.zip (p.lf0.zip p.lpf)

/-- `Engine::synthesize` without the buffer loop of `generate_all`: after the checks of
    `SpeechGenerator::new` the frames are rendered one after the other. -/
theorem engineSynthesize_eq (fx : Fix) (c : Condition K) (b : Bool) (inp : EngineIn K) :
    engineSynthesize fx c b inp = (engineParams c b inp).bind fun p =>
      if speechGeneratorNewOk p then
        .ok (Gen.render (vocoderFrame fx c.fperiod) (engineVoc c inp) p.frames)
      else .panic "speech.rs:SpeechGenerator::new" := by
  unfold engineSynthesize Outcome.bind
  cases engineParams c b inp with
  | err e => rfl
  | panic s => rfl
  | ok p =>
    simp only
    cases speechGeneratorNewOk p with
    | false => simp only [Bool.not_false, if_true, Bool.false_eq_true, if_false]
    | true =>
      simp only [Bool.not_true, Bool.false_eq_true, if_false, if_true]
      rw [Gen.finish_fixed (vocoderFrame fx c.fperiod) _ (fun v f => vocoderFrame_length fx c.fperiod v f)
        (Nat.zero_le _)]
      rfl

theorem engineSynthesize_eq_ok_iff (fx : Fix) (c : Condition K) (b : Bool) (inp : EngineIn K) (w : List K) :
    engineSynthesize fx c b inp = .ok w ↔
      ∃ p, engineParams c b inp = .ok p ∧ speechGeneratorNewOk p = true ∧
        w = Gen.render (vocoderFrame fx c.fperiod) (engineVoc c inp) p.frames := by
  rw [engineSynthesize_eq, Outcome.bind_eq_ok_iff]
  refine exists_congr fun p => and_congr_right fun _ => ?_
  cases speechGeneratorNewOk p <;> simp [eq_comm]

omit [IsStrictOrderedRing K] [FloorRing K] [MlpgConsts K] in
theorem render_frames_length (fx : Fix) (fp : Nat) (v : VocoderSt K) (p : GenParams K) (n : Nat)
    (h0 : p.spectrum.length = n) (h1 : p.lf0.length = n) (h2 : p.lpf.length = n) :
    (Gen.render (vocoderFrame fx fp) v p.frames).length = fp * n := by
  rw [Gen.render_length _ fp (fun v f => vocoderFrame_length fx fp v f), GenParams.frames,
    List.length_zip, List.length_zip, h0, h1, h2, Nat.min_self, Nat.min_self, Nat.mul_comm]

/-! ### what synthesis does not read

  Volume: `Engine::synthesize` with linear gain `g` returns, sample by sample, `g` times what it returns with gain 1 —
  durations, trajectories and the vocoder state do not see the volume, and every frame scales. The GV weight of a
  stream without GV is not read at all. -/

theorem engineSynthesize_volume (fx : Fix) (c : Condition K) (g : K) (b : Bool) (inp : EngineIn K) :
    engineSynthesize fx { c with volume := g } b inp =
      (engineSynthesize fx { c with volume := 1 } b inp).map fun w => w.map (· * g) := by
  -- nothing before the vocoder reads the volume
  have hP : ∀ g, engineParams { c with volume := g } b inp = engineParams c b inp := fun g =>
    engineParams_congr (engineDurations_congr _ _ b inp rfl rfl)
      fun durs i => engineStream_congr _ _ inp durs i rfl rfl (fun _ => rfl)
  rw [engineSynthesize_eq, engineSynthesize_eq, hP g, hP 1]
  cases engineParams c b inp with
  | err e => rfl
  | panic s => rfl
  | ok p =>
    simp only [Outcome.bind_ok]
    cases speechGeneratorNewOk p with
    | false => rfl
    | true =>
      exact congrArg Outcome.ok (Gen.render_scale _ (fun g (v : VocoderSt K) => { v with volume := g }) 1
        (vocoderFrame_volume fx c.fperiod) g _ (engineVoc c inp))

/-- in decibels: `set_volume(v)` multiplies the 0 dB waveform by `exp(v·DB)` (`= 10^(v/20)`), given `exp 0 = 1` -/
theorem engineSynthesize_setVolume (hexp0 : Transc.exp (0 : K) = 1) (fx : Fix) (c : Condition K) (v : K) (b : Bool)
    (inp : EngineIn K) :
    engineSynthesize fx (c.setVolume v) b inp =
      (engineSynthesize fx (c.setVolume 0) b inp).map fun w => w.map (· * Transc.exp (v * Consts.db)) := by
  have h0 : c.setVolume 0 = { c with volume := 1 } := by
    unfold Condition.setVolume
    rw [zero_mul, hexp0]
  rw [h0]
  exact engineSynthesize_volume fx c (Transc.exp (v * Consts.db)) b inp

theorem engineParams_set_gv_no_gv (c : Condition K) (b : Bool) (inp : EngineIn K) (j : Nat) (x : K)
    (hgv : ∀ s, inp.streams[j]? = some s → s.gv = none) :
    engineParams { c with gvWeight := c.gvWeight.set j x } b inp = engineParams c b inp :=
  engineParams_congr (engineDurations_congr _ _ _ inp rfl rfl) fun durs i => by
    by_cases hij : i = j
    · subst hij; exact engineStream_set_gv_no_gv c inp durs i x hgv
    · exact engineStream_congr _ _ inp durs i (by simp [List.getElem?_set_ne (Ne.symm hij)]) rfl (fun _ => rfl)

theorem engineSynthesize_set_gv_no_gv (fx : Fix) (c : Condition K) (b : Bool) (inp : EngineIn K) (j : Nat) (x : K)
    (hgv : ∀ s, inp.streams[j]? = some s → s.gv = none) :
    engineSynthesize fx { c with gvWeight := c.gvWeight.set j x } b inp = engineSynthesize fx c b inp := by
  rw [engineSynthesize_eq, engineSynthesize_eq, engineParams_set_gv_no_gv c b inp j x hgv]; rfl

end

end Jb
