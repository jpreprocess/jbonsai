/-
  C13, the magnitude formula `K / A(z̃)^stage` as an identity of the code's arithmetic for every `alpha`: the lemmas behind
  `Jb/Props/C13.lean`.  With `mgc = lsp2mgc v` (which does not depend on `alpha`), `b = mc2b alpha mgc` and
  `c = lspCoefficients … alpha v = [ (1+γ b₀)^{1/γ}, γ b₁/(1+γ b₀), …, γ b_M/(1+γ b₀) ]` (`lspCoefficients_eq`):
  for `γ ≠ 0` the chain `lsp2lpc → ignorm → ·(−stage) → gnorm → gc2gc → ignorm` collapses to
  `mgc = [(κ−1)/γ, −s·κ·a₁, …, −s·κ·a_m]`, `κ = K^γ`, `a = ½(P+Q)` (`lsp2mgc_eq`); one section run with `c` has the
  transfer function `(1 + γ b₀) / (1 + γ·MGC(z̃))` (`section_gc`, from `dffRun_warp` and `warp_basis_identity_mc2b`), which
  for that `mgc` and `γ = −1/stage` is `κ / A(z̃)` (`warpPoly_collapse`); and `c[0]·κ'^stage = K` when
  `x^{1/γ}·x^stage = 1`, which is `γ = −1/stage` for a real power function (`gain_algebra`).
  The laws of `powf` that are used are hypotheses (`pow` is an abstract operation of the scalar type).
  At the end: the condition under which `check_lsp_stability` changes nothing (`LspStable`).
-/
import Jb.Proofs.LspPoly
import Jb.Proofs.MglsaWarp
import Jb.Proofs.WarpBasis
import Mathlib.Tactic.LinearCombination

namespace Jb

variable {K : Type} [Field K]

/-- `Σ_{m < n} a_m · (z̃^{-m} y)[t]` -/
def warpPoly (alpha : K) (a : List K) (ys : List K) (t : Nat) : K :=
  (Finset.range a.length).sum fun m => a.getD m 0 * (allpassPow alpha m ys).getD t 0

section
variable [LinearOrder K] [IsStrictOrderedRing K] [Transc K] [Consts K]

/-- the gain the vocoder uses: `exp g` or `g`, floored at `MIN_GAIN` -/
def lspGain (useLogGain : Bool) (g : K) : K :=
  let g0 := if useLogGain then Transc.exp g else g
  if Consts.minGain < g0 then g0 else Consts.minGain

omit [IsStrictOrderedRing K] in
theorem lsp2mgc_length (fx : Fix) (useLogGain : Bool) (stage : Nat) (gamma : K) (v : List K) :
    (lsp2mgc fx useLogGain stage gamma v).length = v.length - 1 + 1 := by
  unfold lsp2mgc mgc2mgcSameAlpha
  simp only [ignorm_length, gc2gc_length]

/-- the chain after `lsp2lpc`, for an abstract gain `G`, `s = stage`: with `κ = G^γ` the generalized cepstrum is
    `[(κ − 1)/γ, −s·κ·a₁, …, −s·κ·a_m]` (`gc2gc` between equal `γ` is the identity, `gnorm` undoes `ignorm`) -/
theorem mgc_chain (γ s G : K) (hγ : γ ≠ 0) (a : List K)
    (hpow : Transc.pow (Transc.pow G γ) (1 / γ) = G) (hne : Transc.pow G γ ≠ 0) :
    mgc2mgcSameAlpha
        (match ignorm γ (G :: a) with
          | [] => []
          | h :: t => h :: t.map fun x => x * -s) γ a.length γ =
      (Transc.pow G γ - 1) / γ :: a.map fun x => x * (-s * Transc.pow G γ) := by
  rw [ignorm_cons γ hγ, mgc2mgcSameAlpha]
  simp only
  rw [gnorm_cons γ hγ, mul_div_cancel₀ _ hγ, add_sub_cancel, hpow, gc2gc_same_gamma _ _ _ (by simp),
    List.take_of_length_le (by simp), ignorm_cons γ hγ, List.map_map, List.map_map, List.map_map]
  congr 1
  refine List.map_congr_left fun x _ => ?_
  simp only [Function.comp]
  rw [div_mul_cancel₀ _ hne, mul_right_comm, mul_assoc]

theorem lsp2mgc_eq (b useLogGain : Bool) (stage : Nat) (γ : K) (hγ : γ ≠ 0) (g : K) (lsp : List K)
    (hpow : Transc.pow (Transc.pow (lspGain useLogGain g) γ) (1 / γ) = lspGain useLogGain g)
    (hne : Transc.pow (lspGain useLogGain g) γ ≠ 0) :
    lsp2mgc ⟨b, true⟩ useLogGain stage γ (g :: lsp) =
      (Transc.pow (lspGain useLogGain g) γ - 1) / γ ::
        (lspRefPoly lsp).tail.map fun x => x * (-(stage : K) * Transc.pow (lspGain useLogGain g) γ) := by
  obtain ⟨a, ha, hlen⟩ := lspRefPoly_cons lsp
  rw [ha, List.tail_cons, ← mgc_chain γ stage _ hγ a hpow hne, hlen, lsp2mgc, lsp2lpc_poly, ha]
  rfl

omit [IsStrictOrderedRing K] in
/-- the coefficient list in closed form, `b = mc2b alpha mgc` -/
theorem lspCoefficients_eq (fx : Fix) (useLogGain : Bool) (stage : Nat) (gamma alpha : K) (hg : gamma ≠ 0) (v : List K) :
    lspCoefficients fx useLogGain stage gamma alpha v =
      Transc.pow (1 + gamma * (mc2b alpha (lsp2mgc fx useLogGain stage gamma v)).getD 0 0) (1 / gamma) ::
        (mc2b alpha (lsp2mgc fx useLogGain stage gamma v)).tail.map fun x =>
          x / (1 + gamma * (mc2b alpha (lsp2mgc fx useLogGain stage gamma v)).getD 0 0) * gamma := by
  obtain ⟨b0, rest, hb⟩ := List.exists_cons_of_length_pos
    (by rw [mc2b_length, lsp2mgc_length]; omega : 0 < (mc2b alpha (lsp2mgc fx useLogGain stage gamma v)).length)
  rw [lspCoefficients, hb, gnorm_cons gamma hg, List.getD_cons_zero, List.tail_cons]
  simp only [List.map_map]
  rfl

/-- **a section whose coefficients are `γ·b_k/(1+γb₀)`, `b = mc2b α mgc`, inverts `1 + γ·MGC(z̃)`** up to the factor
    `1 + γb₀`, for an abstract generalized cepstrum `mgc` -/
theorem section_gc (gamma alpha : K) (mgc b : List K) (hb : mc2b alpha mgc = b) (hm : 2 ≤ mgc.length)
    (hb0 : 1 + gamma * b.getD 0 0 ≠ 0) (P : K) (xs : List K) (t : Nat) (ht : t < xs.length) :
    let c := P :: b.tail.map fun x => x / (1 + gamma * b.getD 0 0) * gamma
    let ys := dffRun alpha c (List.replicate c.length 0) xs
    (1 + gamma * b.getD 0 0) * xs.getD t 0 = ys.getD t 0 + gamma * warpPoly alpha mgc ys t := by
  intro c ys
  have hclen : c.length = mgc.length := by
    rw [List.length_cons, List.length_map, List.length_tail, ← hb, mc2b_length]; omega
  have h1 := dffRun_warp alpha c (by omega) xs t ht
  have h2 := warp_basis_identity_mc2b alpha mgc ys t
  rw [hb] at h2
  have hS : (1 + gamma * b.getD 0 0) *
        ((Finset.Ico 1 c.length).sum fun k => c.getD k 0 * (warpBasis alpha ys k).getD t 0) =
      gamma * (Finset.Ico 1 mgc.length).sum fun m => b.getD m 0 * (warpBasis alpha ys m).getD t 0 := by
    rw [hclen, Finset.mul_sum, Finset.mul_sum]
    refine Finset.sum_congr rfl fun k hk => ?_
    obtain ⟨j, rfl⟩ : ∃ j, k = j + 1 := ⟨k - 1, by have := (Finset.mem_Ico.1 hk).1; omega⟩
    rw [List.getD_cons_succ, getD_map_zero _ (by simp), getD_tail, div_mul_eq_mul_div, ← mul_assoc,
      mul_div_cancel₀ _ hb0, mul_comm _ gamma, mul_assoc]
  rw [warpPoly, ← h2, mul_add, ← hS, h1]
  ring

end

/-- the algebra of the collapse: `w₀ + γ Σ mgc_m w_m = (1 + γ mgc₀) Σ a_m w_m` when `mgc = m₀ :: r·a'`, `a = 1 :: a'`
    and `γ r = 1 + γ m₀` -/
theorem warpPoly_collapse (alpha γ m0 r : K) (hr : γ * r = 1 + γ * m0) (a ys : List K) (t : Nat) :
    ys.getD t 0 + γ * warpPoly alpha (m0 :: a.map fun x => x * r) ys t =
      (1 + γ * m0) * warpPoly alpha (1 :: a) ys t := by
  simp only [warpPoly, List.length_cons, List.length_map, Finset.sum_range_succ', List.getD_cons_succ,
    List.getD_cons_zero, getD_map_zero (fun x => x * r) (zero_mul r)]
  rw [Finset.sum_congr rfl fun i _ => mul_right_comm (a.getD i 0) r _, ← Finset.sum_mul,
    show (allpassPow alpha 0 ys).getD t 0 = ys.getD t 0 from rfl]
  linear_combination (∑ i ∈ Finset.range a.length, a.getD i 0 * (allpassPow alpha (i + 1) ys).getD t 0) * hr

/-- **the gains**: if `pA·A^s = 1` and `pB·B^s = 1` (the power law `x^{1/γ}·x^stage = 1` at `A` and `B`) then
    `pA·(A/B)^s = pB` -/
theorem gain_algebra (pA pB A B : K) (s : Nat) (hB : B ≠ 0) (h1 : pA * A ^ s = 1) (h2 : pB * B ^ s = 1) :
    pA * (A / B) ^ s = pB := by
  rw [div_pow, ← mul_div_assoc, h1]
  exact (eq_div_of_mul_eq (pow_ne_zero _ hB) h2).symm

variable [Consts K] in
/-- minimum spacing `π / (4·len)` -/
def lspMin (n : Nat) : K := (1 / ((4 : Nat) : K)) * Consts.pi / (n : K)

variable [LinearOrder K] [Consts K] in
/-- the condition on `v = [gain, w₁ … w_m]` under which the stability check changes nothing -/
def LspStable (v : List K) : Prop :=
  let n := v.length
  (∀ j, 1 ≤ j → j + 1 < n → ¬ (v.getD (j + 1) 0 - v.getD j 0 < lspMin n)) ∧
  (1 < n → ¬ (v.getD 1 0 < lspMin n)) ∧
  ¬ ((Consts.pi : K) - lspMin n < v.getD (n - 1) 0)

theorem checkLspStability_go_fixed {β : Type} (pass : List β → List β × Bool) (v : List β)
    (h : pass v = (v, false)) (fuel : Nat) : checkLspStability.go pass fuel v = v := by
  cases fuel with
  | zero => rfl
  | succ fuel =>
    unfold checkLspStability.go
    simp only [h]
    rfl

end Jb
