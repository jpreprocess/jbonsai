/-
  The MLPG main theorem: `calc_wuw_and_wum` followed by `solve` (banded LDLᵀ + substitutions) returns the
  solution of the dense normal equations `W'U⁻¹W c = W'U⁻¹μ`, for every number of frames, every window set
  whose first window is the static window `[1]`, non-negative precisions and positive static precisions —
  with no hypothesis on pivots (they are positive because the assembled matrix is positive definite).
  `MlpgProblem` bundles these hypotheses; `BandSystem` says what the solver needs of a stored matrix, whatever
  its right-hand side (it then returns the one solution), and `MlpgProblem.calc` that `calc_wuw_and_wum` builds
  such a store of `wpwEntry`. The file ends with three results with their hypotheses written out, as
  `Jb/Props/C05.lean` (the last one) and DESIGN.md §9.2 cite them.
-/
import Jb.Proofs.Assemble
import Jb.Proofs.Ldl
import Jb.Proofs.Likelihood

namespace Jb

variable {K : Type} [Field K] [LinearOrder K]

/-- the rows `calc_wuw_and_wum` produces -/
def assembledRows (windows : List (List K)) (obs : List (List (MeanVari K))) (T width : Nat) : List (List K) :=
  (List.range T).map fun t => (wuwRow windows obs T width t).1

/-- the scalar observations of the MLPG problem: one per (window, frame `s`) -/
def obsOf (windows : List (List K)) (obs : List (List (MeanVari K))) (T : Nat) : List (Obs K T) :=
  (windows.zip obs).flatMap fun wo => (List.range T).map fun s =>
    ({ row := fun t => winCoef wo.1 s t.val, prec := (wo.2.getD s ⟨0, 0⟩).vari, mean := (wo.2.getD s ⟨0, 0⟩).mean } : Obs K T)

/-- `(W x)_o` for the observation of window `win` centred at `s` -/
def obsDot (win : List K) (T s : Nat) (x : List K) : K :=
  (Finset.range T).sum fun t => winCoef win s t * x.getD t 0

/-! ### the stored band is the dense matrix `wpwEntry`, the Gram matrix of `obsOf` -/

section
variable (windows : List (List K)) (obs : List (List (MeanVari K))) (T width : Nat)

theorem assembledRows_length : (assembledRows windows obs T width).length = T := by
  simp [assembledRows]

theorem assembledRows_getD (t : Nat) (ht : t < T) :
    (assembledRows windows obs T width).getD t [] = (wuwRow windows obs T width t).1 := by
  unfold assembledRows
  rw [List.getD_eq_getElem _ _ (by simpa using ht)]
  simp

omit [LinearOrder K] in
theorem wpwEntry_comm (t t' : Nat) : wpwEntry windows obs T t t' = wpwEntry windows obs T t' t :=
  congrArg List.sum (List.map_congr_left fun _ _ => Finset.sum_congr rfl fun _ _ => mul_right_comm _ _ _)

omit [LinearOrder K] in
/-- a sum over the scalar observations, window by window and frame by frame; with it `wpwEntry` and
    `wpmEntry` are by definition the Gram matrix `W'PW` and the vector `W'Pμ` of `obsOf` -/
theorem sum_obsOf (f : Obs K T → K) :
    ((obsOf windows obs T).map f).sum = ((windows.zip obs).map fun wo => (Finset.range T).sum fun s =>
      f { row := fun t => winCoef wo.1 s t.val, prec := (wo.2.getD s ⟨0, 0⟩).vari,
          mean := (wo.2.getD s ⟨0, 0⟩).mean }).sum := by
  rw [obsOf, List.map_flatMap, List.flatMap_def, List.sum_flatten, List.map_map]
  simp only [Function.comp_def, List.map_map]
  rfl

variable (hw : ∀ w ∈ windows, w.length ≤ width) (hw1 : 1 ≤ width) (hedge : EdgeZero windows obs T)
include hw hedge

theorem assembledRows_bandAt (t j : Nat) (ht : t < T) :
    bandAt (assembledRows windows obs T width) t j = wpwEntry windows obs T t (t + j) := by
  rw [bandAt, assembledRows_getD windows obs T width t ht]
  exact (wuwRow_spec windows obs T width t hw hedge).2.2 j

theorem assembledRows_row_length : ∀ row ∈ assembledRows windows obs T width, row.length = width := by
  intro row hrow
  obtain ⟨t, _, rfl⟩ := List.mem_map.1 hrow
  exact (wuwRow_spec windows obs T width t hw hedge).2.1

theorem assembledRows_congr (obs' : List (List (MeanVari K))) (hedge' : EdgeZero windows obs' T)
    (h : ∀ t t', wpwEntry windows obs' T t t' = wpwEntry windows obs T t t') :
    assembledRows windows obs' T width = assembledRows windows obs T width :=
  List.map_congr_left fun t _ => wuwRow_fst_congr windows obs obs' T width t hw hedge hedge' (h t)

include hw1

/-- **band = dense**: the banded product is the dense product with `wpwEntry` -/
theorem assembledRows_mulVec (c : List K) (t : Nat) (ht : t < T) :
    bandMulVec width (assembledRows windows obs T width) c t =
      (Finset.range T).sum fun t' => wpwEntry windows obs T t t' * c.getD t' 0 := by
  rw [bandMulVec_eq width hw1 _ (assembledRows_row_length windows obs T width hw hedge) c t
    (by rw [assembledRows_length]; exact ht), assembledRows_length]
  exact bandRow_eq_dense T _ (wpwEntry windows obs T) _ (wpwEntry_comm windows obs T)
    (fun s i hs => assembledRows_bandAt windows obs T width hw hedge s i (by omega)) ht

/-- the assembled band matrix has the quadratic form `Σ_o p_o (W_o·x)²` -/
theorem assembledRows_quad (x : List K) :
    bandQuad width (assembledRows windows obs T width) x =
      ((windows.zip obs).map fun wo =>
        (Finset.range T).sum fun s => (wo.2.getD s ⟨0, 0⟩).vari * (obsDot wo.1 T s x) ^ 2).sum := by
  -- over `Fin T` the dense matrix is the Gram matrix of `obsOf` (`sum_obsOf`), where `quad_gram` applies
  rw [bandQuad, assembledRows_length, Finset.sum_congr rfl fun t ht => by
    rw [assembledRows_mulVec windows obs T width hw hw1 hedge x t (Finset.mem_range.1 ht),
      ← Fin.sum_univ_eq_sum_range (fun t' => wpwEntry windows obs T t t' * x.getD t' 0)],
    ← Fin.sum_univ_eq_sum_range (fun t => x.getD t 0 * ∑ t' : Fin T, wpwEntry windows obs T t t' * x.getD t' 0)]
  have h := quad_gram (obsOf windows obs T) fun t => x.getD t.val 0
  simp only [sum_obsOf] at h
  exact h.trans (congrArg List.sum (List.map_congr_left fun wo _ => Finset.sum_congr rfl fun s _ => by
    rw [Obs.dot, Fin.sum_univ_eq_sum_range (fun t => winCoef wo.1 s t * x.getD t 0)]; rfl))

end

theorem foldl_max_length_ge {β : Type} (l : List (List β)) :
    ∀ a : Nat, a ≤ l.foldl (fun m w => max m w.length) a ∧
      ∀ w ∈ l, w.length ≤ l.foldl (fun m w => max m w.length) a := by
  induction l with
  | nil => intro a; simp
  | cons w0 rest ih =>
    intro a
    obtain ⟨h1, h2⟩ := ih (max a w0.length)
    rw [List.foldl_cons]
    refine ⟨le_trans (le_max_left _ _) h1, ?_⟩
    intro w hw
    rcases List.mem_cons.mp hw with rfl | hw
    · exact le_trans (le_max_right _ _) h1
    · exact h2 w hw

omit [Field K] [LinearOrder K] in
/-- every window fits the band -/
theorem length_le_maxWidth (windows : List (List K)) :
    ∀ w ∈ windows, w.length ≤ maxWidth windows * 2 + 1 := by
  intro w hw
  have := (foldl_max_length_ge windows 0).2 w hw
  unfold maxWidth
  omega

omit [LinearOrder K] in
theorem winCoef_static (s t : Nat) : winCoef ([1] : List K) s t = if t = s then 1 else 0 := by
  unfold winCoef
  simp only [List.length_singleton, Nat.reduceDiv, Nat.add_zero, Nat.lt_one_iff]
  by_cases h : t = s
  · subst h
    simp
  · rw [if_neg h, if_neg (by omega)]

omit [LinearOrder K] in
theorem sum_winCoef_static (T t : Nat) (ht : t < T) (g : Nat → K) :
    ∑ s ∈ Finset.range T, g s * winCoef ([1] : List K) s t = g t := by
  simp only [winCoef_static, mul_ite, mul_one, mul_zero]
  rw [Finset.sum_ite_eq (Finset.range T) t g, if_pos (Finset.mem_range.mpr ht)]

omit [LinearOrder K] in
theorem obsDot_static (T s : Nat) (x : List K) (hs : s < T) :
    obsDot ([1] : List K) T s x = x.getD s 0 := by
  unfold obsDot
  simp only [winCoef_static, ite_mul, one_mul, zero_mul]
  rw [Finset.sum_ite_eq' (Finset.range T) s (fun t => x.getD t 0), if_pos (Finset.mem_range.mpr hs)]

theorem getD_vari_nonneg (o : List (MeanVari K)) (h : ∀ mv ∈ o, 0 ≤ mv.vari) (s : Nat) :
    0 ≤ (o.getD s ⟨0, 0⟩).vari :=
  forall_getD (P := fun mv : MeanVari K => 0 ≤ mv.vari) le_rfl h s

variable [IsStrictOrderedRing K]

theorem assembledRows_posdef (ws : List (List K)) (o0 : List (MeanVari K)) (os : List (List (MeanVari K)))
    (T width : Nat) (hw : ∀ w ∈ ([1] : List K) :: ws, w.length ≤ width) (hw1 : 1 ≤ width)
    (hT : o0.length = T) (hedge : EdgeZero (([1] : List K) :: ws) (o0 :: os) T)
    (hnonneg : ∀ o ∈ o0 :: os, ∀ mv ∈ o, 0 ≤ mv.vari) (hpos : ∀ mv ∈ o0, 0 < mv.vari)
    (x : List K) (hne : ∃ t, t < T ∧ x.getD t 0 ≠ 0) :
    0 < bandQuad width (assembledRows (([1] : List K) :: ws) (o0 :: os) T width) x := by
  rw [assembledRows_quad _ _ T width hw hw1 hedge x, List.zip_cons_cons, List.map_cons, List.sum_cons]
  apply add_pos_of_pos_of_nonneg
  · -- the static window alone: its term for a frame `t` with `x_t ≠ 0` is `p_t · x_t² > 0`
    obtain ⟨t, ht, hxt⟩ := hne
    refine lt_of_lt_of_le ?_ (Finset.single_le_sum (fun s _ => mul_nonneg
      (getD_vari_nonneg o0 (hnonneg o0 List.mem_cons_self) s) (sq_nonneg _)) (Finset.mem_range.mpr ht))
    rw [obsDot_static T t x ht, List.getD_eq_getElem _ _ (hT.symm ▸ ht)]
    exact mul_pos (hpos _ (List.getElem_mem _)) ((sq_nonneg _).lt_of_ne' (pow_ne_zero 2 hxt))
  · refine List.sum_nonneg fun a ha => ?_
    obtain ⟨wo, hwo, rfl⟩ := List.mem_map.1 ha
    exact Finset.sum_nonneg fun s _ => mul_nonneg
      (getD_vari_nonneg wo.2 (hnonneg wo.2 (List.mem_cons_of_mem _ (List.of_mem_zip hwo).2)) s) (sq_nonneg _)

/-- `m` stores, banded, the symmetric positive definite `T × T` matrix `A`; its right-hand side is arbitrary -/
structure BandSystem (m : MlpgMatrix K) (T : Nat) (A : Nat → Nat → K) : Prop where
  wuw_length : m.wuw.length = T
  wum_length : m.wum.length = T
  length : m.length = T
  width_pos : 1 ≤ m.width
  row_length : ∀ row ∈ m.wuw, row.length = m.width
  mulVec : ∀ (c : List K) t, t < T →
    bandMulVec m.width m.wuw c t = (Finset.range T).sum fun t' => A t t' * c.getD t' 0
  symm : ∀ t t', A t t' = A t' t
  posdef : ∀ x : List K, x.length = T → (∃ t, t < T ∧ x.getD t 0 ≠ 0) → 0 < bandQuad m.width m.wuw x

section
variable {m : MlpgMatrix K} {T : Nat} {A : Nat → Nat → K}

theorem BandSystem.solve_spec (S : BandSystem m T A) :
    m.solve.length = T ∧
      ∀ t, t < T → ((Finset.range T).sum fun t' => A t t' * m.solve.getD t' 0) = m.wum.getD t 0 := by
  obtain ⟨h1, h2⟩ := ldl_solves m.width S.width_pos m.wuw m.wum (S.wum_length.trans S.wuw_length.symm)
    S.row_length fun t ht =>
      ne_of_gt (ldl_pivots_pos m.width S.width_pos _ S.row_length (S.wuw_length ▸ S.posdef) t ht)
  rw [S.wuw_length] at h1 h2
  exact ⟨h1, fun t ht => (S.mulVec _ t ht).symm.trans (h2 t ht)⟩

omit [IsStrictOrderedRing K] in
theorem BandSystem.withWum (S : BandSystem m T A) (r : List K) (hr : r.length = T) :
    BandSystem { m with wum := r } T A :=
  { S with wum_length := hr }

omit [IsStrictOrderedRing K] in
/-- the system has no second solution: the difference `d` of two has `dᵀ A d = 0` -/
theorem BandSystem.unique (S : BandSystem m T A) (c₁ c₂ : List K) (h₁ : c₁.length = T) (h₂ : c₂.length = T)
    (heq : ∀ t, t < T → ((Finset.range T).sum fun t' => A t t' * c₁.getD t' 0) =
      (Finset.range T).sum fun t' => A t t' * c₂.getD t' 0) :
    c₁ = c₂ := by
  set d := (List.range T).map fun t => c₁.getD t 0 - c₂.getD t 0 with hd
  have hdl : d.length = T := by simp [hd]
  have hdt : ∀ t, t < T → d.getD t 0 = c₁.getD t 0 - c₂.getD t 0 := fun t ht => getD_map_range _ ht 0
  have hq : bandQuad m.width m.wuw d = 0 := by
    unfold bandQuad
    rw [S.wuw_length]
    refine Finset.sum_eq_zero fun u hu => ?_
    have hu := Finset.mem_range.mp hu
    rw [S.mulVec d u hu, Finset.sum_congr rfl fun t' ht' => by rw [hdt t' (Finset.mem_range.mp ht'), mul_sub],
      Finset.sum_sub_distrib, heq u hu, sub_self, mul_zero]
  apply List.ext_getElem (h₁.trans h₂.symm)
  intro i hi₁ hi₂
  by_contra hne
  refine lt_irrefl (0 : K) (hq ▸ S.posdef d hdl ⟨i, h₁ ▸ hi₁, ?_⟩)
  rw [hdt i (h₁ ▸ hi₁), List.getD_eq_getElem _ _ hi₁, List.getD_eq_getElem _ _ hi₂]
  exact sub_ne_zero.mpr hne

end

/-- the hypotheses of the MLPG theorems on windows and observation sequences -/
structure MlpgProblem (windows : List (List K)) (obs : List (List (MeanVari K))) (T : Nat) : Prop where
  static : windows.head? = some [1]
  len : windows.length = obs.length
  obs_length : ∀ o ∈ obs, o.length = T
  edge : EdgeZero windows obs T
  nonneg : ∀ o ∈ obs, ∀ mv ∈ o, 0 ≤ mv.vari
  pos : ∀ mv ∈ obs.headD [], 0 < mv.vari

variable {windows : List (List K)} {obs : List (List (MeanVari K))} {T : Nat}

omit [IsStrictOrderedRing K] in
theorem MlpgProblem.cons_form (P : MlpgProblem windows obs T) :
    ∃ ws o0 os, windows = [1] :: ws ∧ obs = o0 :: os := by
  obtain ⟨ws, rfl⟩ : ∃ ws, windows = [1] :: ws := (List.head?_eq_some_iff.1 P.static).imp fun _ h => h
  cases obs with
  | nil => exact absurd P.len (by simp)
  | cons o0 os => exact ⟨ws, o0, os, rfl, rfl⟩

omit [IsStrictOrderedRing K] in
/-- `calc_wuw_and_wum` reads the number of frames off the first observation sequence -/
theorem calcWuwWum_cons_eq (windows : List (List K)) (o0 : List (MeanVari K)) (os : List (List (MeanVari K))) :
    calcWuwWum windows (o0 :: os) = some
      { winSize := windows.length, length := o0.length, width := maxWidth windows * 2 + 1,
        wuw := assembledRows windows (o0 :: os) o0.length (maxWidth windows * 2 + 1),
        wum := (List.range o0.length).map fun t =>
          (wuwRow windows (o0 :: os) o0.length (maxWidth windows * 2 + 1) t).2 } := by
  simp only [calcWuwWum, assembledRows, List.map_map]
  rfl

omit [IsStrictOrderedRing K] in
theorem MlpgProblem.exists_calc (P : MlpgProblem windows obs T) : ∃ m, calcWuwWum windows obs = some m := by
  obtain ⟨ws, o0, os, rfl, rfl⟩ := P.cons_form
  exact ⟨_, calcWuwWum_cons_eq _ o0 os⟩

/-- `calc_wuw_and_wum` in closed form -/
theorem MlpgProblem.calc (P : MlpgProblem windows obs T) {m : MlpgMatrix K}
    (hm : calcWuwWum windows obs = some m) :
    m = { winSize := windows.length, length := T, width := maxWidth windows * 2 + 1,
          wuw := assembledRows windows obs T (maxWidth windows * 2 + 1),
          wum := (List.range T).map (wpmEntry windows obs T) } ∧
      BandSystem m T (wpwEntry windows obs T) := by
  obtain ⟨ws, o0, os, rfl, rfl⟩ := P.cons_form
  obtain ⟨-, -, hobs, hedge, hnonneg, hpos⟩ := P
  have hw := length_le_maxWidth (([1] : List K) :: ws)
  have hw1 : 1 ≤ maxWidth (([1] : List K) :: ws) * 2 + 1 := Nat.le_add_left 1 _
  obtain rfl : o0.length = T := hobs o0 List.mem_cons_self
  rw [calcWuwWum_cons_eq, Option.some.injEq] at hm
  subst hm
  -- the right-hand side the code stores is `W'Pμ`
  rw [List.map_congr_left fun t _ => (wuwRow_spec _ _ o0.length _ t hw hedge).1]
  exact ⟨rfl,
    { wuw_length := assembledRows_length _ _ _ _
      wum_length := by rw [List.length_map, List.length_range]
      length := rfl
      width_pos := hw1
      row_length := assembledRows_row_length _ _ _ _ hw hedge
      mulVec := fun c t ht => assembledRows_mulVec _ _ _ _ hw hw1 hedge c t ht
      symm := fun t t' => wpwEntry_comm _ _ _ t t'
      posdef := fun x _ hne => assembledRows_posdef ws o0 os _ _ hw hw1 rfl hedge hnonneg hpos x hne }⟩

theorem MlpgProblem.solves (P : MlpgProblem windows obs T) {m : MlpgMatrix K}
    (hm : calcWuwWum windows obs = some m) :
    m.solve.length = T ∧ ∀ t, t < T →
      ((Finset.range T).sum fun t' => wpwEntry windows obs T t t' * m.solve.getD t' 0) = wpmEntry windows obs T t := by
  obtain ⟨e, S⟩ := P.calc hm
  refine ⟨S.solve_spec.1, fun t ht => (S.solve_spec.2 t ht).trans ?_⟩
  rw [e, getD_map_range _ ht]

/-! ### three results with their hypotheses written out

Two of them carry hypotheses the proofs do not use, and they are stated in the scalar context of
`Jb/Model/Mlpg.lean`. -/

section
variable [Transc K] [Consts K] [MlpgConsts K]
set_option linter.unusedSectionVars false

set_option linter.unusedVariables false in
theorem assembled_quad (windows : List (List K)) (obs : List (List (MeanVari K))) (T width : Nat)
    (hw : ∀ w ∈ windows, w.length ≤ width) (hw1 : 1 ≤ width) (hobs : ∀ o ∈ obs, o.length = T)
    (hedge : EdgeZero windows obs T) (x : List K) (hx : x.length = T) :
    bandQuad width (assembledRows windows obs T width) x =
      ((windows.zip obs).map fun wo =>
        (Finset.range T).sum fun s => (wo.2.getD s ⟨0, 0⟩).vari * (obsDot wo.1 T s x) ^ 2).sum :=
  assembledRows_quad windows obs T width hw hw1 hedge x

set_option linter.unusedVariables false in
theorem assembled_posdef (ws : List (List K)) (o0 : List (MeanVari K)) (os : List (List (MeanVari K)))
    (T width : Nat) (hw : ∀ w ∈ ([1] : List K) :: ws, w.length ≤ width) (hw1 : 1 ≤ width)
    (hobs : ∀ o ∈ o0 :: os, o.length = T) (hedge : EdgeZero (([1] : List K) :: ws) (o0 :: os) T)
    (hnonneg : ∀ o ∈ o0 :: os, ∀ mv ∈ o, 0 ≤ mv.vari) (hpos : ∀ mv ∈ o0, 0 < mv.vari)
    (x : List K) (hx : x.length = T) (hne : ∃ t, t < T ∧ x.getD t 0 ≠ 0) :
    0 < bandQuad width (assembledRows (([1] : List K) :: ws) (o0 :: os) T width) x :=
  assembledRows_posdef ws o0 os T width hw hw1 (hobs o0 List.mem_cons_self) hedge hnonneg hpos x hne

theorem mlpg_solves_normal_equations (windows : List (List K)) (obs : List (List (MeanVari K))) (T : Nat)
    (hstatic : windows.head? = some [1]) (hlen : windows.length = obs.length)
    (hobs : ∀ o ∈ obs, o.length = T) (hedge : EdgeZero windows obs T)
    (hnonneg : ∀ o ∈ obs, ∀ mv ∈ o, 0 ≤ mv.vari) (hpos : ∀ mv ∈ obs.headD [], 0 < mv.vari)
    (m : MlpgMatrix K) (hm : calcWuwWum windows obs = some m) :
    m.solve.length = T ∧
    ∀ t, t < T →
      ((Finset.range T).sum fun t' => wpwEntry windows obs T t t' * m.solve.getD t' 0) = wpmEntry windows obs T t :=
  (MlpgProblem.mk hstatic hlen hobs hedge hnonneg hpos).solves hm

end

end Jb
