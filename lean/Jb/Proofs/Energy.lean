/-
  C14, energy clause, the lemmas behind `C14.postfilter_preserves_energy`: the post-filter's gain compensation restores
  the energy of the (576-tap) impulse response exactly. `postfilter_mcp` measures the energy `e1` before and `e2` after
  the sharpening and adds `ln(e1/e2)/2` to `b[0]`; a shift of `b[0]` by `δ` shifts `c[0]` by `δ` (`b2mc`), passes
  through `freqt` unchanged in the other coefficients, and scales the whole impulse response of `exp C(z)` by `exp δ`.

  `exp`/`ln` are the abstract `Transc` operations; the laws used are hypotheses of the theorems:
  additivity of `exp`, positivity of `exp`, and `exp (ln x) = x` for positive `x`.
-/
import Jb.Proofs.Postfilter
import Mathlib.Algebra.Order.BigOperators.Group.Finset
import Mathlib.Algebra.BigOperators.Ring.Finset

namespace Jb

variable {K : Type} [Field K]

theorem b2mc_modifyHead (alpha δ : K) (b : List K) :
    b2mc alpha (b.modifyHead (· + δ)) = (b2mc alpha b).modifyHead (· + δ) := by
  cases b with
  | nil => rfl
  | cons b0 l => rw [List.modifyHead_cons, b2mc_cons, b2mc_cons, List.modifyHead_cons, add_right_comm]

private theorem freqtStep_shift (alpha aa x δ : K) (g : List K) :
    freqtStep alpha aa (x + δ) g = (freqtStep alpha aa x g).modifyHead (· + δ) := by
  match g with
  | [] => rfl
  | [g0] =>
    simp only [freqtStep, List.modifyHead_cons]
    congr 1
    ring
  | g0 :: g1 :: rest2 =>
    simp only [freqtStep, List.modifyHead_cons]
    congr 1
    ring

/-- `freqt` (repaired input order) moves a shift of `c[0]` to `g[0]` and nothing else: `c[0]` is fed last -/
theorem freqt_modifyHead (alpha δ : K) (c : List K) (hc : c ≠ []) (m2 : Nat) :
    freqt true (c.modifyHead (· + δ)) m2 alpha = (freqt true c m2 alpha).modifyHead (· + δ) := by
  obtain ⟨c0, rest, rfl⟩ := List.exists_cons_of_ne_nil hc
  unfold freqt
  simp only [if_true, List.modifyHead_cons, List.reverse_cons, List.foldl_append, List.foldl_cons, List.foldl_nil]
  exact freqtStep_shift _ _ _ _ _

/-- the step of the outer fold of `c2ir` -/
private def irStep (clen : Nat) (ctail : List K) (rev : List K) (n0 : Nat) : List K :=
  (((List.range (min clen (n0 + 1 + 1) - 1)).zip (ctail.zip rev)).foldl
      (fun acc (p : Nat × K × K) => acc + ((p.1 + 1 : Nat) : K) * p.2.1 * p.2.2) 0 / ((n0 + 1 : Nat) : K)) :: rev

private theorem irStep_dot_scale (s : K) (ks : List Nat) (ct rev : List K) (acc : K) :
    ((ks.zip (ct.zip (rev.map (· * s)))).foldl
      (fun acc (p : Nat × K × K) => acc + ((p.1 + 1 : Nat) : K) * p.2.1 * p.2.2) (acc * s)) =
    ((ks.zip (ct.zip rev)).foldl
      (fun acc (p : Nat × K × K) => acc + ((p.1 + 1 : Nat) : K) * p.2.1 * p.2.2) acc) * s := by
  rw [foldl_add_map (fun p : Nat × K × K => ((p.1 + 1 : Nat) : K) * p.2.1 * p.2.2),
    foldl_add_map (fun p : Nat × K × K => ((p.1 + 1 : Nat) : K) * p.2.1 * p.2.2), add_mul,
    ← List.sum_map_mul_right, List.zip_map_right, List.zip_map_right, List.map_map]
  exact congrArg _ (congrArg List.sum (List.map_congr_left fun p _ => by
    simp only [Function.comp, Prod.map_fst, Prod.map_snd, id]; ring))

private theorem irStep_scale (s : K) (clen : Nat) (ctail rev : List K) (n0 : Nat) :
    irStep clen ctail (rev.map (· * s)) n0 = (irStep clen ctail rev n0).map (· * s) := by
  unfold irStep
  rw [List.map_cons]
  congr 1
  have h := irStep_dot_scale s (List.range (min clen (n0 + 1 + 1) - 1)) ctail rev 0
  rw [zero_mul] at h
  rw [h]
  ring

private theorem foldl_irStep_suffix (clen : Nat) (ctail : List K) (l : List Nat) (rev : List K) :
    ∃ t, l.foldl (irStep clen ctail) rev = t ++ rev :=
  List.foldlRecOn (motive := fun r => ∃ t, r = t ++ rev) l _ ⟨[], rfl⟩
    fun _ ⟨t, ht⟩ _ _ => ht ▸ ⟨_ :: t, rfl⟩

section
variable [Transc K]

private theorem c2ir_succ (c : List K) (n : Nat) :
    c2ir c (n + 1) =
      ((List.range n).foldl (irStep c.length (c.drop 1)) [Transc.exp (c.getD 0 0)]).reverse := rfl

theorem c2ir_shift0 (hexp : ∀ a b : K, Transc.exp (a + b) = Transc.exp a * Transc.exp b)
    (δ c0 : K) (rest : List K) (len : Nat) :
    c2ir ((c0 + δ) :: rest) len = (c2ir (c0 :: rest) len).map (· * Transc.exp δ) := by
  cases len with
  | zero => rfl
  | succ n =>
    rw [c2ir_succ, c2ir_succ]
    simp only [List.getD_cons_zero, List.length_cons, List.drop_succ_cons, List.drop_zero]
    rw [hexp, List.map_reverse]
    rw [← List.foldl_hom (List.map (· * Transc.exp δ)) (irStep_scale (Transc.exp δ) (rest.length + 1) rest)]
    rfl

private theorem c2ir_head (c : List K) (n : Nat) :
    ∃ t, c2ir c (n + 1) = Transc.exp (c.getD 0 0) :: t := by
  rw [c2ir_succ]
  obtain ⟨t, ht⟩ := foldl_irStep_suffix c.length (c.drop 1) (List.range n) [Transc.exp (c.getD 0 0)]
  rw [ht]
  exact ⟨t.reverse, by simp⟩

end

section
variable [LinearOrder K] [IsStrictOrderedRing K] [Transc K]

/-- the energy is positive: its first tap is `exp c0 > 0` -/
theorem b2en_pos (hpos : ∀ a : K, 0 < Transc.exp a) (fx : Fix) (alpha : K) (b : List K) :
    0 < b2en fx alpha b := by
  obtain ⟨t, ht⟩ := c2ir_head (freqt fx.freqtOrder (b2mc alpha b) 575 (-alpha)) 575
  unfold b2en
  rw [sumS_eq_sum, show 576 = 575 + 1 from rfl, ht, List.map_cons, List.sum_cons]
  exact add_pos_of_pos_of_nonneg (mul_pos (hpos _) (hpos _))
    (List.sum_nonneg fun y hy => by obtain ⟨x, -, rfl⟩ := List.mem_map.1 hy; exact mul_self_nonneg x)

end

/-! ### over the scalar context of `Jb/Props` -/

section
variable [LinearOrder K] [IsStrictOrderedRing K] [Transc K] [Consts K]
set_option linter.unusedSectionVars false

theorem b2en_shift0 (hexp : ∀ a b : K, Transc.exp (a + b) = Transc.exp a * Transc.exp b)
    (b : Bool) (alpha δ b0 : K) (rest : List K) :
    b2en ⟨true, b⟩ alpha ((b0 + δ) :: rest) = b2en ⟨true, b⟩ alpha (b0 :: rest) * (Transc.exp δ * Transc.exp δ) := by
  have h1 : b2mc alpha (b0 :: rest) ≠ [] := by rw [b2mc_cons]; exact List.cons_ne_nil _ _
  have h2 : freqt true (b2mc alpha (b0 :: rest)) 575 (-alpha) ≠ [] := fun h => by
    simpa [h] using freqt_length true (b2mc alpha (b0 :: rest)) 575 (-alpha)
  obtain ⟨g0, gt, h2⟩ := List.exists_cons_of_ne_nil h2
  unfold b2en
  rw [sumS_eq_sum, sumS_eq_sum, ← List.modifyHead_cons (f := (· + δ)), b2mc_modifyHead, freqt_modifyHead _ _ _ h1, h2,
    List.modifyHead_cons, c2ir_shift0 hexp, List.map_map, ← List.sum_map_mul_right]
  exact congrArg List.sum (List.map_congr_left fun x _ => by simp only [Function.comp]; ring)

end

end Jb
