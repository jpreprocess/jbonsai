/-
  Lemmas for C10 / C19 about `Jb/Model/Weights.lean` over a linearly ordered field: the validation of
  weight updates as plain `if`s on the sum and the count, what an accepted update stores, and the fold
  of `weighted` as a weighted sum.
-/
import Jb.Model.Weights
import Jb.Proofs.Field
import Jb.Proofs.ListAux
import Mathlib.Tactic.Ring

namespace Jb

/-! ### weight updates (C19): validation is two plain `if`s, an accepted update writes one vector, a rejected one
    leaves the state alone -/

section
variable {K : Type} [Field K] [LinearOrder K] [IsStrictOrderedRing K]

theorem absDiffEq_iff (a b eps : K) : absDiffEq a b eps = true ↔ |a - b| ≤ eps := by
  unfold absDiffEq
  rw [decide_eq_true_iff]
  split_ifs with h
  · rw [abs_of_pos (sub_pos.2 h)]
  · rw [abs_sub_comm, abs_of_nonneg (sub_nonneg.2 (not_lt.1 h))]

theorem weightsNew_eq (eps : K) (w : List K) :
    weightsNew eps w = if |w.sum - 1| ≤ eps then .ok w else .error .invalidSum := by
  unfold weightsNew
  simp only [absDiffEq_iff, sumS_eq_sum]

theorem IW.validate_eq (eps : K) (iw : IW K) (w : List K) :
    IW.validate eps iw w =
      if |w.sum - 1| ≤ eps then
        if w.length = iw.nvoices then .ok w else .error (.invalidLength iw.nvoices w.length)
      else .error .invalidSum := by
  unfold IW.validate checkLength
  rw [weightsNew_eq]
  by_cases hs : |w.sum - 1| ≤ eps <;> by_cases hl : w.length = iw.nvoices <;>
    simp only [hs, hl, if_true, if_false, ne_eq, not_true_eq_false, not_false_eq_true]

theorem IW.validate_bad_sum (eps : K) (iw : IW K) (w : List K) (h : ¬ |w.sum - 1| ≤ eps) :
    IW.validate eps iw w = .error .invalidSum :=
  (IW.validate_eq eps iw w).trans (if_neg h)

/-- the shape shared by the three setters: validate, then store -/
theorem IW.validate_then_ok_iff (eps : K) (iw s : IW K) (w : List K)
    (store : List K → Outcome WeightError (IW K)) :
    (match IW.validate eps iw w with | .error e => Outcome.err e | .ok w' => store w') = .ok s ↔
      (|w.sum - 1| ≤ eps ∧ w.length = iw.nvoices) ∧ store w = .ok s := by
  rw [IW.validate_eq]
  split_ifs with hs hl <;> simp only [*, true_and, false_and, and_false]

theorem IW.setDuration_ok_iff (eps : K) (iw s : IW K) (w : List K) :
    iw.setDuration eps w = .ok s ↔
      (|w.sum - 1| ≤ eps ∧ w.length = iw.nvoices) ∧ { iw with duration := w } = s := by
  refine (IW.validate_then_ok_iff eps iw s w _).trans ?_
  rw [Outcome.ok.injEq]

theorem IW.setParameter_ok_iff (eps : K) (iw s : IW K) (i : Nat) (w : List K) :
    iw.setParameter eps i w = .ok s ↔
      (|w.sum - 1| ≤ eps ∧ w.length = iw.nvoices) ∧ i < iw.parameter.length ∧
        { iw with parameter := iw.parameter.set i w } = s := by
  refine (IW.validate_then_ok_iff eps iw s w _).trans ?_
  split_ifs with hi <;> simp only [hi, Outcome.ok.injEq, true_and, false_and]

theorem IW.setGv_ok_iff (eps : K) (iw s : IW K) (i : Nat) (w : List K) :
    iw.setGv eps i w = .ok s ↔
      (|w.sum - 1| ≤ eps ∧ w.length = iw.nvoices) ∧ i < iw.gv.length ∧
        { iw with gv := iw.gv.set i w } = s := by
  refine (IW.validate_then_ok_iff eps iw s w _).trans ?_
  split_ifs with hi <;> simp only [hi, Outcome.ok.injEq, true_and, false_and]

def IWOp.weights : IWOp K → List K
  | .dur w => w | .par _ w => w | .gv _ w => w

theorem IWOp.apply_bad_sum (eps : K) (iw : IW K) (op : IWOp K) (h : ¬ |op.weights.sum - 1| ≤ eps) :
    IWOp.apply eps iw op = .err .invalidSum := by
  cases op with
  | dur w => rw [IWOp.apply, IW.setDuration, IW.validate_bad_sum eps iw w h]
  | par i w => rw [IWOp.apply, IW.setParameter, IW.validate_bad_sum eps iw w h]
  | gv i w => rw [IWOp.apply, IW.setGv, IW.validate_bad_sum eps iw w h]

theorem IWOp.apply_ok_select (eps : K) (iw s : IW K) (op : IWOp K) (h : IWOp.apply eps iw op = .ok s) :
    s.select op.target = op.weights ∧
    ∀ q, q ≠ op.target → s.select q = iw.select q := by
  cases op with
  | dur w =>
    obtain ⟨-, rfl⟩ := (IW.setDuration_ok_iff eps iw s w).mp h
    exact ⟨rfl, fun q hq => by cases q <;> first | rfl | exact absurd rfl hq⟩
  | par i w =>
    obtain ⟨-, hi, rfl⟩ := (IW.setParameter_ok_iff eps iw s i w).mp h
    refine ⟨getD_set_self _ _ _ _ hi, fun q hq => ?_⟩
    cases q with
    | par j => exact getD_set_ne _ _ _ _ _ fun e => hq (e ▸ rfl)
    | _ => rfl
  | gv i w =>
    obtain ⟨-, hi, rfl⟩ := (IW.setGv_ok_iff eps iw s i w).mp h
    refine ⟨getD_set_self _ _ _ _ hi, fun q hq => ?_⟩
    cases q with
    | gv j => exact getD_set_ne _ _ _ _ _ fun e => hq (e ▸ rfl)
    | _ => rfl

theorem forall_mem_set {β : Type} {P : β → Prop} {l : List β} {i : Nat} {x : β}
    (hl : ∀ y ∈ l, P y) (hx : P x) : ∀ y ∈ l.set i x, P y := fun y hy =>
  (List.mem_or_eq_of_mem_set hy).elim (hl y) fun e => e ▸ hx

theorem IWOp.apply_ok_wf (eps : K) (iw s : IW K) (op : IWOp K) (ns : Nat) (hwf : iw.WF ns)
    (h : IWOp.apply eps iw op = .ok s) : s.WF ns := by
  obtain ⟨h1, h2, h3, h4, h5⟩ := hwf
  cases op with
  | dur w =>
    obtain ⟨⟨-, hl⟩, rfl⟩ := (IW.setDuration_ok_iff eps iw s w).mp h
    exact ⟨hl, h2, h3, h4, h5⟩
  | par i w =>
    obtain ⟨⟨-, hl⟩, -, rfl⟩ := (IW.setParameter_ok_iff eps iw s i w).mp h
    exact ⟨h1, (List.length_set ..).trans h2, h3, forall_mem_set h4 hl, h5⟩
  | gv i w =>
    obtain ⟨⟨-, hl⟩, -, rfl⟩ := (IW.setGv_ok_iff eps iw s i w).mp h
    exact ⟨h1, h2, (List.length_set ..).trans h3, h4, forall_mem_set h5 hl⟩

/-- one step of `applyIWHistory` -/
def stepIW (eps : K) (iw : IW K) (op : IWOp K) : IW K :=
  match IWOp.apply eps iw op with | .ok s' => s' | _ => iw

omit [IsStrictOrderedRing K] in
theorem applyIWHistory_eq_foldl (eps : K) (iw : IW K) (ops : List (IWOp K)) :
    applyIWHistory eps iw ops = ops.foldl (stepIW eps) iw := rfl

theorem stepIW_wf (eps : K) (iw : IW K) (op : IWOp K) (ns : Nat) (hwf : iw.WF ns) : (stepIW eps iw op).WF ns := by
  unfold stepIW
  cases h : IWOp.apply eps iw op with
  | ok s => exact IWOp.apply_ok_wf eps iw s op ns hwf h
  | _ => exact hwf

set_option linter.unusedSectionVars false in
theorem applyIWHistory_nil (eps : K) (iw : IW K) : applyIWHistory eps iw [] = iw := rfl

omit [IsStrictOrderedRing K] in
theorem applyIWHistory_cons (eps : K) (iw : IW K) (op : IWOp K) (ops : List (IWOp K)) :
    applyIWHistory eps iw (op :: ops) = applyIWHistory eps (stepIW eps iw op) ops := rfl

omit [IsStrictOrderedRing K] in
theorem applyIWHistory_append (eps : K) (iw : IW K) (ops₁ ops₂ : List (IWOp K)) :
    applyIWHistory eps iw (ops₁ ++ ops₂) = applyIWHistory eps (applyIWHistory eps iw ops₁) ops₂ :=
  List.foldl_append ..

omit [IsStrictOrderedRing K] in
theorem applyIWHistory_drop_rejected (eps : K) (iw : IW K) (ops₁ ops₂ : List (IWOp K)) (op : IWOp K)
    (h : ∀ s, IWOp.apply eps (applyIWHistory eps iw ops₁) op ≠ .ok s) :
    applyIWHistory eps iw (ops₁ ++ op :: ops₂) = applyIWHistory eps iw (ops₁ ++ ops₂) := by
  rw [applyIWHistory_append, applyIWHistory_append, applyIWHistory_cons, stepIW]
  cases hr : IWOp.apply eps (applyIWHistory eps iw ops₁) op with
  | ok s' => exact absurd hr (h s')
  | _ => rfl

end

/-! ### `VoiceSet::new` (C19): the compatibility check says every other voice equals the first -/

theorem zip_all_eq {S : Type} [DecidableEq S] (l1 l2 : List S) (h : l1.length = l2.length) :
    (l1.zip l2).all (fun (a, b) => decide (a = b)) = true ↔ l1 = l2 := by
  rw [← List.forall₂_eq_eq_eq, List.forall₂_iff_zip, List.all_eq_true]
  simp only [h, true_and, decide_eq_true_eq, Prod.forall]

theorem voiceSetNew_cons {G S : Type} [DecidableEq G] [DecidableEq S]
    (first : G × List S) (rest : List (G × List S)) :
    voiceSetNew (first :: rest) =
      if ∀ v ∈ rest, v = first then .ok () else .error .metadataError := by
  have hv : ∀ v : G × List S, (decide (v.1 = first.1) && decide (v.2.length = first.2.length) &&
      (v.2.zip first.2).all (fun (a, b) => decide (a = b))) = true ↔ v = first := fun v => by
    rw [Bool.and_eq_true, Bool.and_eq_true, decide_eq_true_eq, decide_eq_true_eq, Prod.ext_iff]
    exact ⟨fun ⟨⟨h1, h2⟩, h3⟩ => ⟨h1, (zip_all_eq _ _ h2).mp h3⟩,
      fun ⟨h1, h2⟩ => ⟨⟨h1, congrArg _ h2⟩, (zip_all_eq _ _ (congrArg _ h2)).mpr h2⟩⟩
  simp only [voiceSetNew, List.all_eq_true, hv]

/-! ### the weighted average (C10): `weighted` scales the first voice and folds the others in (`mixInto`); entry by
    entry that is the weighted sum -/

section
variable {K : Type} [Field K]

namespace ModelParameter

theorem zipAdd_length (as bs : List (MeanVari K)) (w : K) :
    (zipAdd as w bs).length = as.length := by
  fun_induction zipAdd as w bs <;> simp [*]

theorem zipAdd_getD (as bs : List (MeanVari K)) (w : K) (h : bs.length ≤ as.length) (j : Nat) :
    ((zipAdd as w bs).getD j ⟨0, 0⟩).mean =
        (as.getD j ⟨0, 0⟩).mean + w * (bs.getD j ⟨0, 0⟩).mean ∧
    ((zipAdd as w bs).getD j ⟨0, 0⟩).vari =
        (as.getD j ⟨0, 0⟩).vari + w * (bs.getD j ⟨0, 0⟩).vari := by
  induction bs generalizing as j with
  | nil => cases as <;> simp only [zipAdd, List.getD_nil, mul_zero, add_zero, and_self]
  | cons b bs ih =>
    cases as with
    | nil => cases h
    | cons a as =>
      cases j with
      | zero => exact ⟨rfl, rfl⟩
      | succ j => exact ih as (Nat.le_of_succ_le_succ h) j

theorem zipAdd_zero (as bs : List (MeanVari K)) : zipAdd as 0 bs = as := by
  induction as generalizing bs with
  | nil => cases bs <;> rfl
  | cons a as ih =>
    cases bs with
    | nil => rfl
    | cons b bs => simp [zipAdd, ih]

theorem mulAddAssign_zero (acc q : ModelParameter K) : acc.mulAddAssign 0 q = acc := by
  obtain ⟨ap, am⟩ := acc
  obtain ⟨qp, qm⟩ := q
  unfold mulAddAssign
  simp only [zipAdd_zero]
  cases am <;> cases qm <;> simp

theorem mul_one_eq (p : ModelParameter K) : p.mul 1 = p := by
  obtain ⟨pp, pm⟩ := p
  simp [mul]

theorem zipAdd_mul (qs : List (MeanVari K)) (c w : K) :
    zipAdd (qs.map fun mv => (⟨mv.mean * c, mv.vari * c⟩ : MeanVari K)) w qs =
      qs.map fun mv => (⟨mv.mean * (c + w), mv.vari * (c + w)⟩ : MeanVari K) := by
  induction qs with
  | nil => rfl
  | cons a as ih =>
    simp only [List.map_cons, zipAdd, ih]
    congr 2 <;> ring

theorem mul_mulAddAssign (q : ModelParameter K) (c w : K) :
    (q.mul c).mulAddAssign w q = q.mul (c + w) := by
  obtain ⟨qp, qm⟩ := q
  unfold mulAddAssign mul
  simp only [zipAdd_mul]
  cases qm with
  | none => rfl
  | some m =>
    simp only [Option.map_some]
    congr 2
    ring

theorem mul_length (p : ModelParameter K) (w : K) :
    (p.mul w).parameters.length = p.parameters.length := by
  simp [mul]

theorem mul_getD (p : ModelParameter K) (w : K) (j : Nat) :
    (((p.mul w).parameters.getD j ⟨0, 0⟩).mean = w * (p.parameters.getD j ⟨0, 0⟩).mean) ∧
    (((p.mul w).parameters.getD j ⟨0, 0⟩).vari = w * (p.parameters.getD j ⟨0, 0⟩).vari) := by
  simp only [mul, List.getD_eq_getElem?_getD, List.getElem?_map]
  cases p.parameters[j]? with
  | none => simp
  | some a => simp [mul_comm]

end ModelParameter

open ModelParameter

/-- the accumulation loop of `weighted` -/
def mixInto (acc : ModelParameter K) (ps : List (ModelParameter K)) (ws : List K) : ModelParameter K :=
  (ps.zip ws).foldl (fun acc x => acc.mulAddAssign x.2 x.1) acc

theorem weighted_cons (w : K) (ws : List K) (p : ModelParameter K) (ps : List (ModelParameter K)) :
    weighted (w :: ws) (p :: ps) = .ok (mixInto (p.mul w) ps ws) := rfl

theorem mixInto_cons (acc p : ModelParameter K) (ps : List (ModelParameter K)) (w : K) (ws : List K) :
    mixInto acc (p :: ps) (w :: ws) = mixInto (acc.mulAddAssign w p) ps ws := rfl

theorem mixInto_parameters {n : Nat} (ps : List (ModelParameter K)) (ws : List K) (acc : ModelParameter K)
    (hacc : acc.parameters.length = n) (hu : ∀ p ∈ ps, p.parameters.length = n) :
    (mixInto acc ps ws).parameters.length = n ∧
    ∀ j,
      ((mixInto acc ps ws).parameters.getD j ⟨0, 0⟩).mean =
        (acc.parameters.getD j ⟨0, 0⟩).mean +
          ((ws.zip ps).map fun x => x.1 * (x.2.parameters.getD j ⟨0, 0⟩).mean).sum ∧
      ((mixInto acc ps ws).parameters.getD j ⟨0, 0⟩).vari =
        (acc.parameters.getD j ⟨0, 0⟩).vari +
          ((ws.zip ps).map fun x => x.1 * (x.2.parameters.getD j ⟨0, 0⟩).vari).sum := by
  induction ps generalizing ws acc with
  | nil => simp [mixInto, hacc]
  | cons p ps ih =>
    cases ws with
    | nil => simp [mixInto, hacc]
    | cons w ws =>
      have hp : p.parameters.length = n := hu p List.mem_cons_self
      obtain ⟨ih1, ih2⟩ := ih ws (acc.mulAddAssign w p) ((zipAdd_length ..).trans hacc)
        fun p' hp' => hu p' (List.mem_cons_of_mem _ hp')
      refine ⟨ih1, fun j => ?_⟩
      obtain ⟨z1, z2⟩ := zipAdd_getD acc.parameters p.parameters w (hp.trans hacc.symm).le j
      rw [mixInto_cons, (ih2 j).1, (ih2 j).2]
      simp only [mulAddAssign, List.zip_cons_cons, List.map_cons, List.sum_cons, z1, z2, add_assoc,
        and_self]

theorem mixInto_msd (ps : List (ModelParameter K)) (ws ms : List K) (acc : ModelParameter K) (a : K)
    (hacc : acc.msd = some a) (hm : ps.map (·.msd) = ms.map some) :
    (mixInto acc ps ws).msd = some (a + ((ws.zip ms).map fun x => x.1 * x.2).sum) := by
  induction ps generalizing ws ms acc a with
  | nil =>
    cases ms with
    | nil => simp [mixInto, hacc]
    | cons m ms => cases hm
  | cons p ps ih =>
    cases ms with
    | nil => cases hm
    | cons m ms =>
      obtain ⟨hm1, hm2⟩ := List.cons.inj hm
      cases ws with
      | nil => simp [mixInto, hacc]
      | cons w ws =>
        rw [mixInto_cons, ih ws ms _ (a + w * m) (by simp [mulAddAssign, hacc, hm1]) hm2]
        simp only [List.zip_cons_cons, List.map_cons, List.sum_cons, add_assoc]

theorem mixInto_zero (ps : List (ModelParameter K)) (acc : ModelParameter K) :
    mixInto acc ps (List.replicate ps.length 0) = acc := by
  induction ps with
  | nil => rfl
  | cons p ps ih => rw [List.length_cons, List.replicate_succ, mixInto_cons, mulAddAssign_zero, ih]

theorem mixInto_identical (q : ModelParameter K) (ws : List K) (c : K) :
    mixInto (q.mul c) (List.replicate ws.length q) ws = q.mul (c + ws.sum) := by
  induction ws generalizing c with
  | nil => simp [mixInto]
  | cons w ws ih =>
    rw [List.length_cons, List.replicate_succ, mixInto_cons, mul_mulAddAssign, ih, List.sum_cons,
      add_assoc]

end

end Jb
