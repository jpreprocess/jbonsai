/-
  For `Jb/Model/Sys.lean`: an interleaving keeps the number of callers (`interleave_length`) and gives each caller the
  run it has alone (`interleave_runAlone`); and the setter histories of `Jb/Model/Condition.lean`
  (`applyHistory`): a setter call is an update of one record field, so calls on different settings commute and a
  later call on the same setting overwrites.
-/
import Jb.Model.Sys
import Jb.Proofs.ListAux
import Mathlib.Algebra.Order.Field.Basic

namespace Jb

theorem interleave_length {E S O : Type} (step : E → S → S × O) (env : E) (sts : List S) (sched : List Nat) :
    (interleave step env sts sched).1.length = sts.length := by
  induction sched generalizing sts with
  | nil => simp [interleave]
  | cons j rest ih =>
    cases hj : sts[j]? with
    | none => simp only [interleave, hj]; exact ih sts
    | some sj =>
      simp only [interleave, hj]
      rw [ih, List.length_set]

/-- whatever the interleaving, caller `i` produces the outputs it produces running alone for as many steps as it was
    scheduled, and ends in the same local state -/
theorem interleave_runAlone {E S O : Type} (step : E → S → S × O) (env : E) (sts : List S) (sched : List Nat)
    (i : Nat) (s : S) (hs : sts[i]? = some s) :
    ((interleave step env sts sched).2.filter (fun p => p.1 == i)).map (·.2) =
      (runAlone step env s (sched.count i)).2 ∧
    (interleave step env sts sched).1[i]? = some (runAlone step env s (sched.count i)).1 := by
  -- induction on the schedule: a step of `j ≠ i` touches neither `sts[i]` nor the filtered outputs;
  -- a step of `i` is the head of `runAlone`
  induction sched generalizing sts s with
  | nil => simp [interleave, runAlone, hs]
  | cons j rest ih =>
    by_cases hji : j = i
    · subst hji
      have hlt : j < sts.length := (List.getElem?_eq_some_iff.mp hs).1
      have h := ih (sts.set j (step env s).1) (step env s).1 (List.getElem?_set_self hlt)
      simp only [interleave, hs, List.count_cons_self, runAlone, List.filter_cons, beq_self_eq_true,
        if_true, List.map_cons]
      exact ⟨by rw [h.1], h.2⟩
    · have hcnt : (j :: rest).count i = rest.count i := List.count_cons_of_ne hji
      have hbeq : (j == i) = false := by simpa using hji
      cases hj : sts[j]? with
      | none =>
        simp only [interleave, hj, hcnt]
        exact ih sts s hs
      | some sj =>
        have h := ih (sts.set j (step env sj).1) s (by rw [List.getElem?_set_ne hji]; exact hs)
        simp only [interleave, hj, hcnt, List.filter_cons, hbeq]
        exact h

section
variable {K : Type} [Field K] [LinearOrder K] [Transc K] [Consts K]

omit [Transc K] [Consts K] in
theorem Condition.setMsdThreshold_ok {c c' : Condition K} {i : Nat} {f : K} (h : c.setMsdThreshold i f = .ok c') :
    c' = { c with msdThreshold := c.msdThreshold.set i (clampS f 0 1) } := by
  unfold Condition.setMsdThreshold at h
  split_ifs at h
  cases h; rfl

omit [Transc K] [Consts K] in
theorem Condition.setGvWeight_ok {c c' : Condition K} {i : Nat} {f : K} (h : c.setGvWeight i f = .ok c') :
    c' = { c with gvWeight := c.gvWeight.set i (maxS f 0) } := by
  unfold Condition.setGvWeight at h
  split_ifs at h
  cases h; rfl

/-- one step of `applyHistory` -/
def stepC (c : Condition K) (op : CondOp K) : Condition K :=
  match CondOp.apply c op with | .ok c' => c' | _ => c

end

-- stated under the binder list of `Jb/Props/C20.lean`
section
set_option linter.unusedSectionVars false
variable {K : Type} [Field K] [LinearOrder K] [IsStrictOrderedRing K] [Transc K] [Consts K]

theorem applyHistory_eq_foldl (c : Condition K) (ops : List (CondOp K)) :
    applyHistory c ops = ops.foldl stepC c := rfl

theorem stepC_sf (c : Condition K) (i : Nat) :
    stepC c (.sf i) = { c with samplingFrequency := max i 1 } := rfl
theorem stepC_fp (c : Condition K) (i : Nat) :
    stepC c (.fp i) = { c with fperiod := max i 1 } := rfl
theorem stepC_vol (c : Condition K) (f : K) :
    stepC c (.vol f) = { c with volume := Transc.exp (f * Consts.db) } := rfl
theorem stepC_speed (c : Condition K) (f : K) :
    stepC c (.speed f) = { c with speed := maxS f speedMin } := rfl
theorem stepC_align (c : Condition K) (b : Bool) :
    stepC c (.align b) = { c with alignment := b } := rfl
theorem stepC_alpha (c : Condition K) (f : K) :
    stepC c (.alpha f) = { c with alpha := clampS f 0 1 } := rfl
theorem stepC_beta (c : Condition K) (f : K) :
    stepC c (.beta f) = { c with beta := clampS f 0 1 } := rfl
theorem stepC_ht (c : Condition K) (f : K) :
    stepC c (.ht f) = { c with halfTone := f } := rfl

end

section
variable {K : Type} [Field K] [LinearOrder K] [Transc K] [Consts K]

/-- `List.set` past the end is the identity, so the guarded update is a plain one. -/
theorem stepC_msd (c : Condition K) (i : Nat) (f : K) :
    stepC c (.msd i f) = { c with msdThreshold := c.msdThreshold.set i (clampS f 0 1) } := by
  show (match c.setMsdThreshold i f with | .ok c' => c' | _ => c) = _
  unfold Condition.setMsdThreshold
  split_ifs with h
  · rfl
  · rw [List.set_eq_of_length_le (not_lt.mp h)]

theorem stepC_gv (c : Condition K) (i : Nat) (f : K) :
    stepC c (.gv i f) = { c with gvWeight := c.gvWeight.set i (maxS f 0) } := by
  show (match c.setGvWeight i f with | .ok c' => c' | _ => c) = _
  unfold Condition.setGvWeight
  split_ifs with h
  · rfl
  · rw [List.set_eq_of_length_le (not_lt.mp h)]

theorem stepC_eq (c : Condition K) (op : CondOp K) :
    stepC c op = match op with
      | .sf i => { c with samplingFrequency := max i 1 }
      | .fp i => { c with fperiod := max i 1 }
      | .vol f => { c with volume := Transc.exp (f * Consts.db) }
      | .msd i f => { c with msdThreshold := c.msdThreshold.set i (clampS f 0 1) }
      | .gv i f => { c with gvWeight := c.gvWeight.set i (maxS f 0) }
      | .speed f => { c with speed := maxS f speedMin }
      | .align b => { c with alignment := b }
      | .alpha f => { c with alpha := clampS f 0 1 }
      | .beta f => { c with beta := clampS f 0 1 }
      | .ht f => { c with halfTone := f } := by
  cases op with
  | msd i f => exact stepC_msd ..
  | gv i f => exact stepC_gv ..
  | _ => rfl

theorem stepC_overwrite (c : Condition K) (a b : CondOp K) (h : a.key = b.key) :
    stepC (stepC c a) b = stepC c b := by
  -- equal keys force equal constructors (and equal index): `cases h` discards the other 90 pairs
  cases a <;> cases b <;> cases h <;> simp only [stepC_eq, List.set_set]

theorem stepC_comm (c : Condition K) (a b : CondOp K) (h : a.key ≠ b.key) :
    stepC (stepC c a) b = stepC (stepC c b) a := by
  -- updates of two different fields commute syntactically; two indices of one list by `List.set_comm`;
  -- the eight pairs with one key are excluded by `h`
  cases a <;> cases b <;> simp only [stepC_eq]
  case msd.msd i _ j _ => rw [List.set_comm _ _ fun e => h (congrArg (Prod.mk _) e)]
  case gv.gv i _ j _ => rw [List.set_comm _ _ fun e => h (congrArg (Prod.mk _) e)]
  all_goals exact absurd rfl h

theorem stepC_absorb (a : CondOp K) (rest : List (CondOp K)) (c : Condition K)
    (h : rest.any (fun o => o.key == a.key) = true) :
    rest.foldl stepC (stepC c a) = rest.foldl stepC c := by
  induction rest generalizing c with
  | nil => simp at h
  | cons b rest ih =>
    simp only [List.foldl_cons]
    by_cases hk : b.key = a.key
    · rw [stepC_overwrite c a b hk.symm]
    · have h' : rest.any (fun o => o.key == a.key) = true := by
        simpa [hk] using h
      rw [stepC_comm c a b (fun e => hk e.symm)]
      exact ih _ h'

theorem stepC_msdThreshold_length (c : Condition K) (op : CondOp K) :
    (stepC c op).msdThreshold.length = c.msdThreshold.length := by
  cases op <;> simp only [stepC_eq, List.length_set]

theorem stepC_gvWeight_length (c : Condition K) (op : CondOp K) :
    (stepC c op).gvWeight.length = c.gvWeight.length := by
  cases op <;> simp only [stepC_eq, List.length_set]

theorem applyHistory_append (c : Condition K) (ops ops' : List (CondOp K)) :
    applyHistory c (ops ++ ops') = applyHistory (applyHistory c ops) ops' :=
  -- `applyHistory c ops` is `ops.foldl stepC c` by definition (`applyHistory_eq_foldl`)
  List.foldl_append ..

theorem applyHistory_snoc (c : Condition K) (ops : List (CondOp K)) (op : CondOp K) :
    applyHistory c (ops ++ [op]) = stepC (applyHistory c ops) op :=
  applyHistory_append c ops [op]

theorem applyHistory_msdThreshold_length (c : Condition K) (ops : List (CondOp K)) :
    (applyHistory c ops).msdThreshold.length = c.msdThreshold.length :=
  foldl_measure_eq (·.msdThreshold.length) stepC stepC_msdThreshold_length ops c

theorem applyHistory_gvWeight_length (c : Condition K) (ops : List (CondOp K)) :
    (applyHistory c ops).gvWeight.length = c.gvWeight.length :=
  foldl_measure_eq (·.gvWeight.length) stepC stepC_gvWeight_length ops c

end

end Jb
