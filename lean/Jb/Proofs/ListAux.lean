/-
  Downstream every list is read by position with `getD i d`. These lemmas push `getD` through the list
  operations the model uses (reversed prefixes, `zip`, `set`, `map`, `replicate`, shifts), and turn the model's
  `foldl` loops into invariants and sums.
-/
import Mathlib.Data.List.GetD
import Mathlib.Algebra.BigOperators.Group.Finset.Basic

namespace Jb

/-- the history a left-to-right loop keeps (entries so far, most recent first), read by position -/
theorem getD_take_reverse {β : Type} (L : List β) {t i0 : ℕ} (ht : t ≤ L.length) (hi : i0 < t) (d : β) :
    (L.take t).reverse.getD i0 d = L.getD (t - 1 - i0) d := by
  rw [List.getD_eq_getElem?_getD, List.getD_eq_getElem?_getD,
    List.getElem?_reverse (by rw [List.length_take]; omega), List.length_take, min_eq_left ht,
    List.getElem?_take_of_lt (by omega)]

theorem getD_zip {β γ : Type} (as : List β) (bs : List γ) (t : ℕ) (h1 : t < as.length)
    (h2 : t < bs.length) (a : β) (b : γ) :
    (as.zip bs).getD t (a, b) = (as.getD t a, bs.getD t b) := by
  rw [List.getD_eq_getElem _ _ (by rw [List.length_zip]; omega), List.getElem_zip,
    List.getD_eq_getElem _ _ h1, List.getD_eq_getElem _ _ h2]

theorem getD_replicate_default {β : Type} (n i : ℕ) (d : β) : (List.replicate n d).getD i d = d := by
  rw [List.getD_eq_getElem?_getD, List.getElem?_getD_replicate_default_eq]

theorem getD_drop_append_replicate {β : Type} (l : List β) (i n t : ℕ) (d : β) :
    (l.drop i ++ List.replicate n d).getD t d = l.getD (t + i) d := by
  rcases Nat.lt_or_ge t (l.drop i).length with h | h
  · rw [List.getD_append _ _ _ _ h, List.getD_eq_getElem?_getD, List.getElem?_drop, Nat.add_comm,
      ← List.getD_eq_getElem?_getD]
  · rw [List.getD_append_right _ _ _ _ h, getD_replicate_default,
      List.getD_eq_default _ _ (by rw [List.length_drop] at h; omega)]

theorem getD_take_append_replicate {β : Type} (l : List β) (k n t : ℕ) (d : β) :
    (l.take k ++ List.replicate n d).getD t d = if t < k then l.getD t d else d := by
  rcases Nat.lt_or_ge t (l.take k).length with h | h
  · rw [List.getD_append _ _ _ _ h, if_pos (lt_of_lt_of_le h (List.length_take_le k l)),
      List.getD_eq_getElem?_getD, List.getElem?_take_of_lt (lt_of_lt_of_le h (List.length_take_le k l)),
      ← List.getD_eq_getElem?_getD]
  · rw [List.getD_append_right _ _ _ _ h, getD_replicate_default]
    split_ifs with hk
    · rw [List.getD_eq_default _ _ (by rw [List.length_take] at h; omega)]
    · rfl

theorem getD_take_replicate_append {β : Type} (l : List β) (i t : ℕ) (d : β) :
    ((List.replicate i d ++ l).take l.length).getD t d = if i ≤ t ∧ t < l.length then l.getD (t - i) d else d := by
  rw [List.getD_eq_getElem?_getD, List.getElem?_take]
  split_ifs with h1 h2 h2
  · rw [List.getElem?_append_right (by simpa using h2.1), List.length_replicate, List.getD_eq_getElem?_getD]
  · rw [List.getElem?_append_left (by rw [List.length_replicate]; omega), List.getElem?_getD_replicate_default_eq]
  · omega
  · rfl

theorem getD_set_self {β : Type} (l : List β) (i : ℕ) (x d : β) (hi : i < l.length) :
    (l.set i x).getD i d = x := by
  rw [List.getD_eq_getElem?_getD, List.getElem?_set_self hi, Option.getD_some]

theorem getD_set_ne {β : Type} (l : List β) (i j : ℕ) (x d : β) (hij : i ≠ j) :
    (l.set i x).getD j d = l.getD j d := by
  rw [List.getD_eq_getElem?_getD, List.getD_eq_getElem?_getD, List.getElem?_set_ne hij]

theorem getD_map_zero {β γ : Type} [Zero β] [Zero γ] (f : β → γ) (hf : f 0 = 0) (l : List β) (i : ℕ) :
    (l.map f).getD i 0 = f (l.getD i 0) :=
  hf ▸ List.getD_map l 0 f

theorem getD_map_of_lt {β γ : Type} (f : β → γ) (l : List β) {i : ℕ} (hi : i < l.length) (d : γ) (d' : β) :
    (l.map f).getD i d = f (l.getD i d') := by
  rw [List.getD_eq_getElem _ _ (by rwa [List.length_map]), List.getD_eq_getElem _ _ hi, List.getElem_map]

theorem getD_map_range {γ : Type} (f : ℕ → γ) {n i : ℕ} (hi : i < n) (d : γ) :
    ((List.range n).map f).getD i d = f i := by
  rw [List.getD_eq_getElem _ _ (by rwa [List.length_map, List.length_range]), List.getElem_map,
    List.getElem_range]

theorem getD_tail {β : Type} (l : List β) (i : ℕ) (d : β) : l.tail.getD i d = l.getD (i + 1) d := by
  cases l <;> rfl

theorem forall_getD {β : Type} {P : β → Prop} {l : List β} {d : β} (hd : P d) (h : ∀ x ∈ l, P x) (i : ℕ) :
    P (l.getD i d) := by
  rcases Nat.lt_or_ge i l.length with hi | hi
  · rw [List.getD_eq_getElem _ _ hi]
    exact h _ (List.getElem_mem hi)
  · rwa [List.getD_eq_default _ _ hi]

/-- A list function that appends one entry per input, `F (xs ++ [x]) = F xs ++ [h xs x]`, commutes with
    `take`, and its entry `t` is `h` of the inputs before `t`. -/
theorem take_getD_of_snoc_step {α β : Type} {F : List α → List β} {h : List α → α → β} (hnil : F [] = [])
    (hsnoc : ∀ xs x, F (xs ++ [x]) = F xs ++ [h xs x]) (xs : List α) :
    (F xs).length = xs.length ∧ ∀ t, t < xs.length → ∀ d d',
      F (xs.take t) = (F xs).take t ∧ (F xs).getD t d = h (xs.take t) (xs.getD t d') := by
  induction xs using List.reverseRecOn with
  | nil => exact ⟨by rw [hnil]; rfl, fun t ht => absurd ht (Nat.not_lt_zero t)⟩
  | append_singleton xs x ih =>
    obtain ⟨hl, ih⟩ := ih
    rw [hsnoc]
    refine ⟨by simp only [List.length_append, List.length_singleton, hl], fun t ht d d' => ?_⟩
    rw [List.length_append, List.length_singleton] at ht
    rcases Nat.lt_succ_iff_lt_or_eq.1 ht with h' | rfl
    · rw [List.take_append_of_le_length h'.le, List.take_append_of_le_length (hl ▸ h'.le),
        List.getD_append _ _ _ _ (hl ▸ h'), List.getD_append _ _ _ _ h']
      exact ih t h' d d'
    · rw [List.take_left' rfl, List.take_left' hl, List.getD_append_right _ _ _ _ hl.le,
        List.getD_append_right _ _ _ _ le_rfl, hl, Nat.sub_self]
      exact ⟨rfl, rfl⟩

theorem map_eq_self {α : Type} {f : α → α} {l : List α} (h : ∀ x ∈ l, f x = x) : l.map f = l :=
  (List.map_congr_left h).trans (List.map_id' l)

theorem length_flatten_map_const {β γ : Type} (l : List β) (f : β → List γ) (n : ℕ)
    (h : ∀ x ∈ l, (f x).length = n) : ((l.map f).flatten).length = l.length * n := by
  rw [← List.flatMap_def, List.length_flatMap, List.map_congr_left h, List.map_const', List.sum_replicate_nat]

theorem foldl_fixed {σ ι : Type} (step : σ → ι → σ) (s : σ) (l : List ι) (h : ∀ i ∈ l, step s i = s) :
    l.foldl step s = s :=
  List.foldlRecOn (motive := (· = s)) l step rfl fun _ hs i hi => hs ▸ h i hi

theorem foldl_measure_eq {σ ι τ : Type} (μ : σ → τ) (step : σ → ι → σ) (h : ∀ s i, μ (step s i) = μ s)
    (l : List ι) (s : σ) : μ (l.foldl step s) = μ s :=
  List.foldlRecOn (motive := (μ · = μ s)) l step rfl fun _ hs i _ => (h _ i).trans hs

theorem foldl_measure_succ {σ ι : Type} (μ : σ → ℕ) (step : σ → ι → σ) (h : ∀ s i, μ (step s i) = μ s + 1)
    (l : List ι) (s : σ) : μ (l.foldl step s) = μ s + l.length := by
  rw [← List.foldl_hom μ (g₂ := fun n _ => n + 1) fun s i => (h s i).symm, List.foldl_add_const, Nat.one_mul]

/-- A left fold whose every step keeps `P` and adds `δ i c` to each component `v · c` of the state adds
    the sums of the `δ`. -/
theorem foldl_add_spec {σ ι κ M : Type} [AddCommMonoid M] (P : σ → Prop) (v : σ → κ → M) (step : σ → ι → σ)
    (δ : ι → κ → M) (l : List ι)
    (h : ∀ s, P s → ∀ i ∈ l, P (step s i) ∧ ∀ c, v (step s i) c = v s c + δ i c) (s : σ) (hs : P s) :
    P (l.foldl step s) ∧ ∀ c, v (l.foldl step s) c = v s c + (l.map (δ · c)).sum := by
  induction l generalizing s with
  | nil => exact ⟨hs, fun c => by rw [List.map_nil, List.sum_nil, add_zero, List.foldl_nil]⟩
  | cons i l ih =>
    obtain ⟨h1, h2⟩ := h s hs i List.mem_cons_self
    obtain ⟨h3, h4⟩ := ih (fun s hs j hj => h s hs j (List.mem_cons_of_mem _ hj)) _ h1
    exact ⟨h3, fun c => by rw [List.foldl_cons, h4, h2, List.map_cons, List.sum_cons, add_assoc]⟩

theorem foldl_add_map {β M : Type} [AddCommMonoid M] (F : β → M) (l : List β) (a : M) :
    l.foldl (fun acc x => acc + F x) a = a + (l.map F).sum := by
  induction l generalizing a with
  | nil => rw [List.foldl_nil, List.map_nil, List.sum_nil, add_zero]
  | cons x l ih => rw [List.foldl_cons, ih, List.map_cons, List.sum_cons, add_assoc]

/-- `Finset.range n` is `List.range n` as a multiset, by definition -/
theorem sum_map_range {M : Type} [AddCommMonoid M] (f : ℕ → M) (n : ℕ) :
    ((List.range n).map f).sum = (Finset.range n).sum f := rfl

/-- a sum over a range may be extended by terms that vanish -/
theorem sum_range_extend {M : Type} [AddCommMonoid M] (f : ℕ → M) {m n : ℕ} (hmn : m ≤ n)
    (hz : ∀ j, m ≤ j → j < n → f j = 0) : ∑ j ∈ Finset.range m, f j = ∑ j ∈ Finset.range n, f j :=
  Finset.sum_subset (Finset.range_subset_range.2 hmn) fun x hx hx' =>
    hz x (not_lt.1 fun h => hx' (Finset.mem_range.2 h)) (Finset.mem_range.1 hx)

theorem sum_map_drop {β M : Type} [AddCommMonoid M] (F : β → M) (l : List β) (k : ℕ) (d : β) :
    ((l.drop k).map F).sum = (Finset.range (l.length - k)).sum fun i => F (l.getD (k + i) d) := by
  induction l generalizing k with
  | nil => simp
  | cons x l ih =>
    cases k with
    | zero =>
      have h := ih 0
      rw [List.drop_zero, Nat.sub_zero] at h
      rw [List.drop_zero, List.map_cons, List.sum_cons, h, List.length_cons, Nat.sub_zero, Finset.sum_range_succ',
        Nat.add_zero, List.getD_cons_zero, add_comm]
      simp only [Nat.zero_add, List.getD_cons_succ]
    | succ k =>
      rw [List.drop_succ_cons, ih k, List.length_cons, Nat.succ_sub_succ]
      simp only [Nat.succ_add, List.getD_cons_succ]

theorem sum_eq_sum_range_getD {M : Type} [AddCommMonoid M] (l : List M) :
    l.sum = ∑ k ∈ Finset.range l.length, l.getD k 0 := by
  rw [← sum_map_range]
  exact congrArg List.sum <| List.ext_getElem (by rw [List.length_map, List.length_range]) fun i h _ => by
    rw [List.getElem_map, List.getElem_range, List.getD_eq_getElem _ _ h]

theorem sum_range_sum_map {β M : Type} [AddCommMonoid M] (l : List β) (n : ℕ) (f : β → ℕ → M) :
    ∑ t ∈ Finset.range n, (l.map fun b => f b t).sum = (l.map fun b => ∑ t ∈ Finset.range n, f b t).sum := by
  induction l with
  | nil => simp only [List.map_nil, List.sum_nil, Finset.sum_const_zero]
  | cons b rest ih => simp only [List.map_cons, List.sum_cons, Finset.sum_add_distrib, ih]

theorem foldl_range_eq {σ : Type} (step : σ → ℕ → σ) (init : σ) (I : ℕ → σ) (h0 : init = I 0)
    (h : ∀ n, step (I n) n = I (n + 1)) (n : ℕ) : (List.range n).foldl step init = I n := by
  induction n with
  | zero => exact h0
  | succ n ih => rw [List.range_succ, List.foldl_append, ih, List.foldl_cons, List.foldl_nil, h]

theorem getD_of_all_zero {M : Type} [Zero M] {c : List M} (hc : ∀ y ∈ c, y = 0) (i : ℕ) : c.getD i 0 = 0 := by
  rw [List.eq_replicate_iff.2 ⟨rfl, hc⟩, getD_replicate_default]

end Jb
