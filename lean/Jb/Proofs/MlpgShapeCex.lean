/-
  `mlpgCreate_shape` needs its hypothesis `hgv`: on a well-formed stream whose GV switch list does not cover
  every state, `create` returns no trajectory (`mlpgCreate_shape_counterexample`).
-/
import Jb.Proofs.MlpgShape

namespace Jb

section
variable {K : Type} [Field K] [LinearOrder K] [Transc K]

/-- with an eligible frame the GV stage zips with the switch list at least once -/
theorem gvParmgen_length_le (m : MlpgMatrix K) (par : List K) (sw : List Bool) (gm gv : K)
    (h : (sw.filter id).length ≠ 0) : (gvParmgen m par sw gm gv).length ≤ sw.length := by
  have hle : ∀ (par : List K) (g : List K) (step mean vari : K),
      (gvNextStep m par sw g step mean vari gm gv).length ≤ sw.length := fun _ _ _ _ _ => by
    rw [gvNextStep_length_eq]; omega
  -- `conv_gv` may keep the length of `par`; the first pass of the loop is what zips with `sw`
  rw [gvParmgen_of_eligible m par sw gm gv h, gvParmgen.loop]
  exact gvLoop_length_inv (· ≤ sw.length) (fun _ _ _ _ _ => hle _ _ _ _ _) (hle _ _ _ _ _)

end

section
variable {K : Type} [Field K] [LinearOrder K] [Transc K] [Consts K] [MlpgConsts K]

/-- a well-formed two-state stream whose GV switch list (one entry) is shorter than its state list -/
def cexStream : StreamIn K :=
  { vectorLength := 1, stream := [⟨[⟨0, 1⟩], 1⟩, ⟨[⟨0, 1⟩], 1⟩], gv := some ([⟨0, 1⟩], [true]), windows := [[1]] }

omit [LinearOrder K] [Transc K] [Consts K] [MlpgConsts K] in
theorem cexStream_wf : StreamWF (cexStream : StreamIn K) := by
  refine ⟨by simp [cexStream], ?_⟩
  intro st hst
  simp only [cexStream, List.mem_cons, List.not_mem_nil, or_false, or_self] at hst
  subst hst
  simp [cexStream]

variable [IsStrictOrderedRing K]

theorem cexStream_not_ok (gw : K) (rows : List (List K)) :
    mlpgCreate gw 0 (cexStream : StreamIn K) [1, 1] ≠ .ok rows := by
  intro h
  -- column 0: two voiced frames to fill, but the GV stage has zipped the solution with the one-entry switch
  obtain ⟨r, hr⟩ := ((mlpgCreate_eq_ok_iff _ _ _ _ _).1 h).2.2.1 0 Nat.one_pos
  have hmask : maskCreate (cexStream : StreamIn K).stream 0 [1, 1] = [true, true] := by
    simp [cexStream, maskCreate, expand]
  have hsw : filterBy (expand [true] [1, 1]) [true, true] = [true] := by decide
  obtain ⟨mtx, -, hr⟩ := mlpgCol_eq_some _ _ _ _ hr
  rw [hmask] at hr
  have h2 : 2 ≤ (mtx.par (cexStream : StreamIn K).gv 0 gw [1, 1] [true, true]).length := (maskFill_eq_some hr).1
  rw [show (cexStream : StreamIn K).gv = some ([⟨0, 1⟩], [true]) from rfl, MlpgMatrix.par_some, hsw] at h2
  exact absurd h2 (Nat.not_le.2 (Nat.lt_succ_of_le (gvParmgen_length_le mtx mtx.solve [true] _ _ (by decide))))

end

section
variable {K : Type} [Field K] [LinearOrder K] [IsStrictOrderedRing K] [FloorRing K]
  [Transc K] [Consts K] [MlpgConsts K]

set_option linter.unusedSectionVars false in
/-- Without its hypothesis on the GV switch list `mlpgCreate_shape` fails: in the model a switch list shorter
    than the duration list makes the GV stage truncate the trajectory (`zip`), and `maskFill` then runs out of
    values. The Rust code panics too, but earlier: `next_step` indexes `gv_switch[t]` for every frame. -/
theorem mlpgCreate_shape_counterexample :
    ∃ (s : StreamIn K) (durs : List Nat), StreamWF s ∧ durs.length ≤ s.stream.length ∧
      ∀ gw rows, mlpgCreate gw 0 s durs ≠ .ok rows :=
  ⟨cexStream, [1, 1], cexStream_wf, by simp [cexStream], cexStream_not_ok⟩

end

end Jb
