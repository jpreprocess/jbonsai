/-
  The engine-level property theorems, lifted to the whole library `Synth.synthesize`: from "for every stage input
  `inp : EngineIn K`" to "for every voice set, interpolation weights, setter history and label text". The sections go
  by what varies between the two sides of a statement: the setter history (then the stage inputs are the same,
  `withInputs_congr`; the last setter is read off by `condOf_snoc` + `stepC_*`; `engineIn_wf` gives well-formed inputs
  for both histories at once), nothing (what the library computes under one history), the interpolation weights, the
  label text.  Beside the statements the property files quote (`params_congr`, `params_snoc`, `synthesize_volume`,
  `params_halfTone_shift`, `engineIn_no_gv`, `synthesize_speed_law`, `durations_alignment`, `params_maximum_likelihood`,
  `synthesize_same_weights`, …) each section holds the same fact one level down — for one stream's trajectory
  (`stream_*`), for the durations (`durations_*`), for one more kind of update — as results in their own right: nothing
  else uses them, and `stream_congr`, `durations_congr` serve only them.

  The speed test. `Synth.synthesize` takes the comparison `speed == 1.0` as a parameter `f : Condition K → Bool`
  (so that the model needs no `DecidableEq` on the scalars), and `f` may a priori read any setting. Every statement
  that compares two histories needs `f` to answer the same on the two conditions; `SpeedOnly f` ("`f` reads the speed
  setting only") gives that. This hypothesis is about the model's parameter, not about the voices, and it cannot be
  dropped: `Cex.volume_needs_speedOnly` (a speed test that reads the volume makes `set_volume` change the number of
  samples).
-/
import Jb.Proofs.SynthTotal
import Jb.Proofs.HalfTone
import Jb.Proofs.MlpgMl
import Jb.Proofs.Label
import Mathlib.Data.Rat.Floor
import Mathlib.Tactic.NormNum

set_option linter.unusedSectionVars false

namespace Jb
namespace Synth
open Hts Outcome

variable {K : Type} [Field K] [LinearOrder K] [IsStrictOrderedRing K] [FloorRing K]
  [Transc K] [Consts K] [MlpgConsts K] [FromFile K]

/-! ## I. Two setter histories on the same voices -/

/-- stream `j` reads the same settings under `c'` as under `c`: its own GV weight, its own MSD threshold, and — for
    log-F0 only — the additional half tone -/
def StreamSame (c c' : Condition K) (j : Nat) : Prop :=
  c'.gvWeight[j]? = c.gvWeight[j]? ∧ c'.msdThreshold[j]? = c.msdThreshold[j]? ∧ (j = 1 → c'.halfTone = c.halfTone)

section
variable (big : K) (voices : List ParsedVoice) (iw : IW K) (ops ops' : List (CondOp K))
  (f : Condition K → Bool) (labels : List (List Char)) (times : List (K × K))

theorem stream_congr (durs : List Nat) (j : Nat)
    (hs : ∀ v0, voices.head? = some v0 → StreamSame (condOf (K := K) v0 ops) (condOf v0 ops') j) :
    stream big voices iw ops' labels times durs j = stream big voices iw ops labels times durs j := by
  simp only [stream_eq]
  exact withInputs_congr fun v0 inp hv0 _ =>
    engineStream_congr _ _ inp durs j (hs v0 hv0).1 (hs v0 hv0).2.1 (hs v0 hv0).2.2

theorem durations_congr (hf : SpeedOnly f)
    (hs : ∀ v0, voices.head? = some v0 → (condOf (K := K) v0 ops').alignment = (condOf (K := K) v0 ops).alignment ∧
      (condOf (K := K) v0 ops').speed = (condOf (K := K) v0 ops).speed) :
    durations big voices iw ops' f labels times = durations big voices iw ops f labels times := by
  simp only [durations_eq]
  exact withInputs_congr fun v0 inp hv0 _ => by
    rw [hf _ _ (hs v0 hv0).2]; exact engineDurations_congr _ _ _ inp (hs v0 hv0).1 (hs v0 hv0).2

end

theorem params_congr (big : K) (voices : List ParsedVoice) (iw : IW K) (h : VoicesWF voices iw)
    (v0 : ParsedVoice) (hv0 : voices.head? = some v0) (ops ops' : List (CondOp K)) (f : Condition K → Bool)
    (hf : SpeedOnly f) (labels : List (List Char)) (times : List (K × K))
    (halign : (condOf (K := K) v0 ops).alignment = true → times.length = labels.length)
    (ha : (condOf (K := K) v0 ops').alignment = (condOf (K := K) v0 ops).alignment)
    (hs : (condOf (K := K) v0 ops').speed = (condOf (K := K) v0 ops).speed) :
    ∃ p p', params big voices iw ops f labels times = .ok p ∧ params big voices iw ops' f labels times = .ok p' ∧
      p'.durations = p.durations ∧ (∀ j, (p'.traj j).length = (p.traj j).length) ∧
      ∀ j < 3, StreamSame (condOf (K := K) v0 ops) (condOf v0 ops') j → p'.traj j = p.traj j := by
  obtain ⟨inp, hin, -, hwf⟩ := engineIn_wf big voices iw h v0 hv0 labels times
  obtain ⟨p, p', hp, hp', e1, e2, e3⟩ := engineParams_compare (b := f (condOf v0 ops)) (b' := f (condOf v0 ops'))
    (hwf _ (condOf_lengths v0 ops).1 (condOf_lengths v0 ops).2 halign)
    (hwf _ (condOf_lengths v0 ops').1 (condOf_lengths v0 ops').2 (ha ▸ halign))
    (by rw [hf _ _ hs]; exact engineDurations_congr _ _ _ inp ha hs)
  simp only [params_eq, withInputs_of_ok hv0 hin]
  exact ⟨p, p', hp, hp', e1, e2, fun j hj3 hj =>
    e3 j hj3 fun durs => engineStream_congr _ _ inp durs _ hj.1 hj.2.1 hj.2.2⟩

/-- appending one setter call `op` that keeps alignment and speed: same durations and trajectory lengths, and every
    trajectory outside `T`, the streams whose settings `op` may touch, is unchanged -/
theorem params_snoc (big : K) (voices : List ParsedVoice) (iw : IW K) (h : VoicesWF voices iw)
    (v0 : ParsedVoice) (hv0 : voices.head? = some v0) (ops : List (CondOp K)) (f : Condition K → Bool)
    (hf : SpeedOnly f) (labels : List (List Char)) (times : List (K × K))
    (halign : (condOf (K := K) v0 ops).alignment = true → times.length = labels.length)
    (op : CondOp K) (T : Nat → Prop)
    (ha : (stepC (condOf (K := K) v0 ops) op).alignment = (condOf (K := K) v0 ops).alignment)
    (hs : (stepC (condOf (K := K) v0 ops) op).speed = (condOf (K := K) v0 ops).speed)
    (hsame : ∀ j, ¬ T j → StreamSame (condOf (K := K) v0 ops) (stepC (condOf v0 ops) op) j) :
    ∃ p p', params big voices iw ops f labels times = .ok p ∧
      params big voices iw (ops ++ [op]) f labels times = .ok p' ∧
      p'.durations = p.durations ∧
      p'.spectrum.length = p.spectrum.length ∧ p'.lf0.length = p.lf0.length ∧ p'.lpf.length = p.lpf.length ∧
      (¬ T 0 → p'.spectrum = p.spectrum) ∧ (¬ T 1 → p'.lf0 = p.lf0) ∧ (¬ T 2 → p'.lpf = p.lpf) := by
  obtain ⟨p, p', hp, hp', e1, e2, e3⟩ := params_congr big voices iw h v0 hv0 ops (ops ++ [op]) f hf labels times halign
    (by rw [condOf_snoc]; exact ha) (by rw [condOf_snoc]; exact hs)
  have e3' : ∀ j < 3, ¬ T j → p'.traj j = p.traj j := fun j hj3 hj => e3 j hj3 (by rw [condOf_snoc]; exact hsame j hj)
  exact ⟨p, p', hp, hp', e1, e2 0, e2 1, e2 2, e3' 0 (by decide), e3' 1 (by decide), e3' 2 (by decide)⟩

/-! ### C16: volume is a pure gain of `synthesize` -/

theorem synthesize_volume (hexp0 : Transc.exp (0 : K) = 1) (fx : Fix) (big : K) (voices : List ParsedVoice)
    (iw : IW K) (ops : List (CondOp K)) (f : Condition K → Bool) (hf : SpeedOnly f)
    (labels : List (List Char)) (times : List (K × K)) (v : K) :
    synthesize fx big voices iw (ops ++ [.vol v]) f labels times =
      (synthesize fx big voices iw (ops ++ [.vol 0]) f labels times).map
        fun w => w.map (· * Transc.exp (v * Consts.db)) := by
  simp only [synthesize_eq, withInputs_map, condOf_snoc]
  exact withInputs_congr fun v0 inp _ _ => by
    rw [hf (stepC (condOf v0 ops) (.vol v)) (stepC (condOf v0 ops) (.vol 0)) rfl]
    exact engineSynthesize_setVolume hexp0 fx _ v _ inp

theorem synthesize_volume_samples (hexp0 : Transc.exp (0 : K) = 1) (fx : Fix) (big : K) (voices : List ParsedVoice)
    (iw : IW K) (h : VoicesWF voices iw) (v0 : ParsedVoice) (hv0 : voices.head? = some v0)
    (ops : List (CondOp K)) (f : Condition K → Bool) (hf : SpeedOnly f)
    (labels : List (List Char)) (times : List (K × K))
    (halign : (condOf (K := K) v0 ops).alignment = true → times.length = labels.length) (v : K) :
    ∃ w0 w, synthesize fx big voices iw (ops ++ [.vol 0]) f labels times = .ok w0 ∧
      synthesize fx big voices iw (ops ++ [.vol v]) f labels times = .ok w ∧
      w.length = w0.length ∧ ∀ n (hn : n < w0.length), w[n]? = some (w0[n] * Transc.exp (v * Consts.db)) := by
  obtain ⟨_, w0, h0, -⟩ := synthesize_total fx big voices iw h v0 hv0 (ops ++ [.vol 0]) f labels times (by
    rw [condOf_snoc]; exact halign)
  refine ⟨w0, w0.map (· * Transc.exp (v * Consts.db)), h0, ?_, by simp, fun n hn => by simp [hn]⟩
  rw [synthesize_volume hexp0 fx big voices iw ops f hf labels times v, h0]; rfl

/-! ### C15: the additional half tone transposes F0 and nothing else -/

theorem durations_halfTone (big : K) (voices : List ParsedVoice) (iw : IW K) (ops : List (CondOp K))
    (f : Condition K → Bool) (hf : SpeedOnly f) (labels : List (List Char)) (times : List (K × K)) (ht : K) :
    durations big voices iw (ops ++ [.ht ht]) f labels times = durations big voices iw ops f labels times :=
  durations_congr big voices iw ops _ f labels times hf fun v0 _ => by simp [condOf_snoc, stepC_ht]

theorem stream_halfTone (big : K) (voices : List ParsedVoice) (iw : IW K) (ops : List (CondOp K))
    (labels : List (List Char)) (times : List (K × K)) (durs : List Nat) (j : Nat) (hj : j ≠ 1) (ht : K) :
    stream big voices iw (ops ++ [.ht ht]) labels times durs j = stream big voices iw ops labels times durs j :=
  stream_congr big voices iw ops _ labels times durs j fun v0 _ => by simp [StreamSame, condOf_snoc, stepC_ht, hj]

/-- **C15 for the whole library, with the shift.** `s1` is `Models::model_stream(1)` (log-F0) for these voices, weights
    and labels, `thr` the log-F0 MSD threshold the history leaves; `hu`: no state mean reaches the 20 Hz..20 kHz clamp.
    After `set_additional_half_tone(h)`: same durations, same spectrum and low-pass trajectories, and log-F0 is the
    `set_additional_half_tone(0)` trajectory plus `h·ln2/12` on every voiced frame (no-data marker kept elsewhere). -/
theorem params_halfTone_shift (big : K) (voices : List ParsedVoice) (iw : IW K) (h : VoicesWF voices iw)
    (v0 : ParsedVoice) (hv0 : voices.head? = some v0) (ops : List (CondOp K)) (f : Condition K → Bool)
    (hf : SpeedOnly f) (labels : List (List Char)) (times : List (K × K))
    (halign : (condOf (K := K) v0 ops).alignment = true → times.length = labels.length)
    (ht : K) (hh : ht ≠ 0)
    (s1 : StreamIn K) (hs1 : modelStream big voices iw labels v0.global.nstates 1 = .ok s1)
    (thr : K) (hthr : (condOf (K := K) v0 ops).msdThreshold[1]? = some thr)
    (hstatic : s1.windows.head? = some [1]) (hsum : ∀ w ∈ s1.windows.tail, w.sum = 0)
    (hnonneg : ∀ st ∈ s1.stream, ∀ p ∈ st.params, 0 ≤ (withIvar p).vari)
    (hdflt : 0 ≤ (withIvar (⟨0, 0⟩ : MeanVari K)).vari)
    (hpos : ∀ st ∈ s1.stream, 0 < (withIvar (st.params.getD 0 ⟨0, 0⟩)).vari)
    (hu : Unclamped s1.stream ht) :
    ∃ p p', params big voices iw (ops ++ [.ht 0]) f labels times = .ok p ∧
      params big voices iw (ops ++ [.ht ht]) f labels times = .ok p' ∧
      p'.durations = p.durations ∧ p'.spectrum = p.spectrum ∧ p'.lpf = p.lpf ∧ p'.lf0.length = p.lf0.length ∧
      ∀ n, n < p.lf0.length →
        p'.lf0.getD n [] =
          if (maskCreate s1.stream thr p.durations).getD n false then (p.lf0.getD n []).map (· + ht * Consts.halfTone)
          else p.lf0.getD n [] := by
  obtain ⟨inp, hin, hwf, -⟩ := engineIn_total big voices iw h v0 hv0 (ops ++ [.ht 0])
    labels times (by rw [condOf_snoc]; exact halign)
  have hs1' : inp.streams[1]? = some s1 :=
    (engineIn_stream_iff hv0 hin).2 ⟨by rcases (h.head v0 hv0).nstreams with e | e <;> omega, hs1⟩
  have hb : f (condOf v0 (ops ++ [.ht ht])) = f (condOf v0 (ops ++ [.ht 0])) :=
    hf _ _ (by rw [condOf_snoc, condOf_snoc]; rfl)
  have hc : condOf (K := K) v0 (ops ++ [.ht ht]) = { condOf (K := K) v0 (ops ++ [.ht 0]) with halfTone := ht } := by
    rw [condOf_snoc, condOf_snoc]; rfl
  obtain ⟨p, p', hp, hp', rest⟩ := engineParams_halfTone (condOf v0 (ops ++ [.ht 0])) ht hh
    (by rw [condOf_snoc]; rfl) (f (condOf v0 (ops ++ [.ht 0]))) inp hwf s1 hs1' thr
    (by rw [condOf_snoc]; exact hthr) hstatic hsum hnonneg hdflt hpos hu
  refine ⟨p, p', ?_, ?_, rest⟩
  · rw [params_eq, withInputs_of_ok hv0 hin]; exact hp
  · rw [params_eq, withInputs_of_ok hv0 hin, hb, hc]; exact hp'

/-! ### C11: a stream's threshold and GV weight reach that stream only -/

/-- C11 at stream level. In the model an out-of-range `i` changes nothing at all (`applyHistory` skips the call); the real
    `set_msd_threshold` panics on it (engine.rs:160) -/
theorem stream_msd_other (big : K) (voices : List ParsedVoice) (iw : IW K) (ops : List (CondOp K))
    (labels : List (List Char)) (times : List (K × K)) (durs : List Nat) (i j : Nat) (hij : j ≠ i) (x : K) :
    stream big voices iw (ops ++ [.msd i x]) labels times durs j = stream big voices iw ops labels times durs j :=
  stream_congr big voices iw ops _ labels times durs j fun v0 _ => by simp [StreamSame, condOf_snoc, stepC_msd, hij.symm]

theorem stream_gv_other (big : K) (voices : List ParsedVoice) (iw : IW K) (ops : List (CondOp K))
    (labels : List (List Char)) (times : List (K × K)) (durs : List Nat) (i j : Nat) (hij : j ≠ i) (x : K) :
    stream big voices iw (ops ++ [.gv i x]) labels times durs j = stream big voices iw ops labels times durs j :=
  stream_congr big voices iw ops _ labels times durs j fun v0 _ => by simp [StreamSame, condOf_snoc, stepC_gv, hij.symm]

theorem durations_msd (big : K) (voices : List ParsedVoice) (iw : IW K) (ops : List (CondOp K))
    (f : Condition K → Bool) (hf : SpeedOnly f) (labels : List (List Char)) (times : List (K × K)) (i : Nat) (x : K) :
    durations big voices iw (ops ++ [.msd i x]) f labels times = durations big voices iw ops f labels times :=
  durations_congr big voices iw ops _ f labels times hf fun v0 _ => by simp [condOf_snoc, stepC_msd]

theorem durations_gv (big : K) (voices : List ParsedVoice) (iw : IW K) (ops : List (CondOp K))
    (f : Condition K → Bool) (hf : SpeedOnly f) (labels : List (List Char)) (times : List (K × K)) (i : Nat) (x : K) :
    durations big voices iw (ops ++ [.gv i x]) f labels times = durations big voices iw ops f labels times :=
  durations_congr big voices iw ops _ f labels times hf fun v0 _ => by simp [condOf_snoc, stepC_gv]

/-! ### C12: the GV switch of the stage inputs; a stream without GV ignores its GV weight -/

/-- C12 (switch): stream `j` of the stage inputs has no GV if the first voice's stream `j` has `USE_GV = 0` or the label
    text is empty; otherwise its switch is `!(label matches a GV-off pattern of the first voice)`, `NUM_STATES` times for
    every label -/
theorem engineIn_gv_switch {big : K} {voices : List ParsedVoice} {v0 : ParsedVoice} {iw : IW K}
    {labels : List (List Char)} {times : List (K × K)} {inp : EngineIn K} (hv0 : voices.head? = some v0)
    (hin : engineIn big voices iw labels times = .ok inp) (j : Nat) (s : StreamIn K) (hs : inp.streams[j]? = some s) :
    ∃ s0, v0.streams[j]? = some s0 ∧
      (s0.info.useGv = false ∨ labels = [] → s.gv = none) ∧
      ∀ g sw, s.gv = some (g, sw) →
        sw = (labels.map fun l => List.replicate v0.global.nstates (!(questionTest v0.global.gvOff l))).flatten := by
  obtain ⟨-, hm⟩ := (engineIn_stream_iff hv0 hin).1 hs
  obtain ⟨s0, st, gv, -, -, hg, rfl⟩ := (modelStream_eq_ok_iff hv0).1 hm
  exact modelsGv_spec hv0 hg

theorem engineIn_no_gv {big : K} {voices : List ParsedVoice} {v0 : ParsedVoice} {iw : IW K}
    {labels : List (List Char)} {times : List (K × K)} {inp : EngineIn K} (hv0 : voices.head? = some v0)
    (hin : engineIn big voices iw labels times = .ok inp) {j : Nat}
    (hno : labels = [] ∨ ∀ v0 s0, voices.head? = some v0 → v0.streams[j]? = some s0 → s0.info.useGv = false)
    (s : StreamIn K) (hs : inp.streams[j]? = some s) : s.gv = none := by
  obtain ⟨s0, hs0, hnone, -⟩ := engineIn_gv_switch hv0 hin j s hs
  exact hnone (hno.symm.imp (fun hu => hu v0 s0 hv0 hs0) id)

theorem stream_gv_no_gv (big : K) (voices : List ParsedVoice) (iw : IW K) (ops : List (CondOp K))
    (labels : List (List Char)) (times : List (K × K)) (durs : List Nat) (i j : Nat) (x : K)
    (hno : labels = [] ∨ ∀ v0 s0, voices.head? = some v0 → v0.streams[j]? = some s0 → s0.info.useGv = false) :
    stream big voices iw (ops ++ [.gv j x]) labels times durs i = stream big voices iw ops labels times durs i := by
  by_cases hij : i = j
  · subst hij
    simp only [stream_eq, condOf_snoc, stepC_gv]
    exact withInputs_congr fun v0 inp hv0 hin =>
      engineStream_set_gv_no_gv _ inp durs i _ (engineIn_no_gv hv0 hin hno)
  · exact stream_gv_other big voices iw ops labels times durs j i hij x

/-! ## II. One history: what the library computes -/

/-! ### C08: the speaking rate scales the utterance -/

/-- **the speed-1 frame count of a label text**, from the voices: `Σ_states max(1, round(mean))` over the
    interpolated duration Gaussians (`0` if `Models::duration` does not return) -/
def frames1 (voices : List ParsedVoice) (iw : IW K) (labels : List (List Char)) : Nat :=
  match modelsDuration voices iw labels with
  | .ok dur => (estimateDuration dur 0).sum
  | _ => 0

theorem frames1_eq {big : K} {voices : List ParsedVoice} {iw : IW K} {labels : List (List Char)}
    {times : List (K × K)} {v0 : ParsedVoice} {inp : EngineIn K} (hv0 : voices.head? = some v0)
    (hin : engineIn big voices iw labels times = .ok inp) :
    frames1 voices iw labels = (estimateDuration inp.duration 0).sum := by
  unfold frames1
  rw [engineIn_duration hv0 hin]

theorem synthesize_speed_one (fx : Fix) (big : K) (voices : List ParsedVoice) (iw : IW K) (h : VoicesWF voices iw)
    (v0 : ParsedVoice) (hv0 : voices.head? = some v0) (ops : List (CondOp K)) (f : Condition K → Bool)
    (labels : List (List Char)) (times : List (K × K))
    (halign : (condOf (K := K) v0 ops).alignment = false) (hf : f (condOf v0 ops) = true) :
    ∃ (durs : List Nat) (w : List K), synthesize fx big voices iw ops f labels times = .ok w ∧
      w.length = (condOf (K := K) v0 ops).fperiod * durs.sum ∧
      durs.length = labels.length * v0.global.nstates ∧ (∀ d ∈ durs, 1 ≤ d) ∧
      durs.sum = frames1 voices iw labels := by
  obtain ⟨inp, durs, w, hin, -, hD, hW, hwl, hdl, hdp⟩ :=
    synthesize_total_inputs fx big voices iw h v0 hv0 ops f labels times (by simp [halign])
  rw [engineDurations_speed halign, hf, durationCreate_true, Outcome.ok.injEq] at hD
  exact ⟨durs, w, hW, hwl, hdl, hdp, by rw [frames1_eq hv0 hin, ← hD]⟩

/-- `F = max(round(F₁ / speed), labels × states)` frames, `F₁ = frames1` and `speed` the setting the history leaves -/
theorem synthesize_speed_law (fx : Fix) (big : K) (voices : List ParsedVoice) (iw : IW K) (h : VoicesWF voices iw)
    (v0 : ParsedVoice) (hv0 : voices.head? = some v0) (ops : List (CondOp K)) (f : Condition K → Bool)
    (labels : List (List Char)) (times : List (K × K))
    (halign : (condOf (K := K) v0 ops).alignment = false) (hne : labels ≠ [])
    (hf : f (condOf v0 ops) = false) :
    ∃ (durs : List Nat) (w : List K), synthesize fx big voices iw ops f labels times = .ok w ∧
      w.length = (condOf (K := K) v0 ops).fperiod * durs.sum ∧
      durs.length = labels.length * v0.global.nstates ∧ (∀ d ∈ durs, 1 ≤ d) ∧
      durs.sum = max (RoundNat.roundMax1 ((frames1 voices iw labels : K) / (condOf (K := K) v0 ops).speed))
        (labels.length * v0.global.nstates) := by
  obtain ⟨inp, durs, w, hin, hidl, hD, hW, hwl, hdl, hdp⟩ :=
    synthesize_total_inputs fx big voices iw h v0 hv0 ops f labels times (by simp [halign])
  have hdne : inp.duration ≠ [] := List.ne_nil_of_length_pos (by
    rw [hidl]; exact Nat.mul_pos (List.length_pos_of_ne_nil hne) (h.head v0 hv0).nstates_pos)
  rw [engineDurations_speed halign, hf] at hD
  exact ⟨durs, w, hW, hwl, hdl, hdp, by
    rw [(durationCreate_ok_spec hD).2.2 rfl hdne, hidl, frames1_eq hv0 hin]⟩

/-! ### C09: phoneme alignment is honoured -/

theorem durations_eq_createWithAlignment {big : K} {voices : List ParsedVoice} {iw : IW K} {labels : List (List Char)}
    {times : List (K × K)} {v0 : ParsedVoice} {inp : EngineIn K} (hv0 : voices.head? = some v0)
    (hin : engineIn big voices iw labels times = .ok inp) (ops : List (CondOp K)) (f : Condition K → Bool)
    (hal : (condOf (K := K) v0 ops).alignment = true) :
    durations big voices iw ops f labels times = createWithAlignment true inp.duration v0.global.nstates times := by
  obtain ⟨hns, -, htimes, -⟩ := engineIn_fields hv0 hin
  rw [durations_eq, withInputs_of_ok hv0 hin, engineDurations_align hal, hns, htimes]

/-- **C09 for the whole library.** The durations `Engine::generator` chooses are `create_with_alignment(times)` on
    `Models::duration`, whatever the speed setting and the speed test, and the cumulative law of `C09.aligned_cumulative`
    holds with `times`: with `g` the start of the group closed by label `i`, `c` the frames before the group and `m` the
    number of states in the group, if `round(e − c) > m` the frames up to and including label `i` are `c + round(e − c)`,
    otherwise every state of the group lasts exactly one frame.  `times` are `EngineIn.times`, i.e. `Labels::times()` in
    frames, after gap filling and rate conversion; no theorem here links them to the label text. -/
theorem durations_alignment (fx : Fix) (big : K) (voices : List ParsedVoice) (iw : IW K) (h : VoicesWF voices iw)
    (v0 : ParsedVoice) (hv0 : voices.head? = some v0) (ops : List (CondOp K)) (f : Condition K → Bool)
    (labels : List (List Char)) (times : List (K × K))
    (hal : (condOf (K := K) v0 ops).alignment = true) (hlen : times.length = labels.length) :
    ∃ (dur : List (MeanVari K)) (durs : List Nat) (w : List K),
      modelsDuration voices iw labels = .ok dur ∧ dur.length = labels.length * v0.global.nstates ∧
      durations big voices iw ops f labels times = .ok durs ∧
      createWithAlignment true dur v0.global.nstates times = .ok durs ∧
      durs.length = labels.length * v0.global.nstates ∧ (∀ d ∈ durs, 1 ≤ d) ∧
      synthesize fx big voices iw ops f labels times = .ok w ∧
      w.length = (condOf (K := K) v0 ops).fperiod * durs.sum ∧
      ∀ i, i < times.length → 0 ≤ (times.getD i (0, 0)).2 →
        let e := (times.getD i (0, 0)).2
        let g := groupStart times i
        let c := (durs.take (g * v0.global.nstates)).sum
        let m := (i + 1 - g) * v0.global.nstates
        (m < RoundNat.roundMax1 (e - (c : K)) →
            (durs.take ((i + 1) * v0.global.nstates)).sum = c + RoundNat.roundMax1 (e - (c : K))) ∧
        (RoundNat.roundMax1 (e - (c : K)) ≤ m →
            ∀ x ∈ (durs.drop (g * v0.global.nstates)).take m, x = 1) := by
  obtain ⟨inp, durs, w, hin, hidl, hD, hW, hwl, hdl, hdp⟩ :=
    synthesize_total_inputs fx big voices iw h v0 hv0 ops f labels times (fun _ => hlen)
  have hd := durations_eq_createWithAlignment hv0 hin ops f hal
  have hC : createWithAlignment true inp.duration v0.global.nstates times = .ok durs := by
    rw [← hd, durations_eq, withInputs_of_ok hv0 hin]; exact hD
  exact ⟨inp.duration, durs, w, engineIn_duration hv0 hin, hidl, hd.trans hC, hC, hdl, hdp, hW, hwl, fun i hi he =>
    align_cumulative inp.duration v0.global.nstates times (h.head v0 hv0).nstates_pos (by rw [hidl, hlen]) durs hC i hi he⟩

/-- non-vacuity: the one-voice set `Tiny.voice` is well-formed and `set_alignment(true)` turns alignment on, so every
    hypothesis of `durations_alignment` is met for one label with the time pair `(0, 5)` -/
example (fx : Fix) (big : K) (f : Condition K → Bool) (l : List Char) :
    ∃ durs w, durations big [Tiny.voice] (Tiny.weights (K := K)) ([] ++ [.align true]) f [l] [(0, 5)] = .ok durs ∧
      synthesize fx big [Tiny.voice] (Tiny.weights (K := K)) ([] ++ [.align true]) f [l] [(0, 5)] = .ok w ∧
      (∀ d ∈ durs, 1 ≤ d) := by
  obtain ⟨dur, durs, w, -, -, h1, -, -, h2, h3, -, -⟩ := durations_alignment fx big [Tiny.voice]
    (Tiny.weights (K := K)) Tiny.voicesWF Tiny.voice rfl ([] ++ [.align true]) f [l] [(0, 5)]
    (by rw [condOf_snoc_align]; rfl) rfl
  exact ⟨durs, w, h1, h3, h2⟩

/-- the frames through an aligned label are its rounded end time `round(e) = ⌊e + ½⌋`, when its group (the labels since
    the last known end) has fewer states than the rounded remaining time `round(e − c)` -/
theorem durations_alignment_round_end (big : K) (voices : List ParsedVoice) (iw : IW K) (h : VoicesWF voices iw)
    (v0 : ParsedVoice) (hv0 : voices.head? = some v0) (ops : List (CondOp K)) (f : Condition K → Bool)
    (labels : List (List Char)) (times : List (K × K))
    (hal : (condOf (K := K) v0 ops).alignment = true) (hlen : times.length = labels.length)
    (durs : List Nat) (hd : durations big voices iw ops f labels times = .ok durs)
    (i : Nat) (hi : i < times.length) (he : 0 ≤ (times.getD i (0, 0)).2) :
    let e := (times.getD i (0, 0)).2
    let g := groupStart times i
    let c := (durs.take (g * v0.global.nstates)).sum
    (i + 1 - g) * v0.global.nstates < RoundNat.roundMax1 (e - (c : K)) →
      (durs.take ((i + 1) * v0.global.nstates)).sum = ⌊e + 1 / 2⌋₊ := by
  obtain ⟨inp, hin, -, hidl⟩ := engineIn_total big voices iw h v0 hv0 ops labels times (fun _ => hlen)
  rw [durations_eq_createWithAlignment hv0 hin ops f hal] at hd
  intro e g c hlt
  have hm : 1 ≤ (i + 1 - g) * v0.global.nstates :=
    Nat.mul_pos (by have := Jb.groupStart_le times i; omega) (h.head v0 hv0).nstates_pos
  rw [(align_cumulative inp.duration v0.global.nstates times (h.head v0 hv0).nstates_pos (by rw [hidl, hlen]) durs hd
    i hi he).1 hlt]
  exact add_roundMax1_sub_natCast e c (by rw [roundMax1_def, floor_half_sub_natCast] at hlt; omega)

/-! ### C05: without GV, the trajectories handed to the vocoder are the maximum-likelihood ones

  `engineStream_ml` is engine-level; it stands here because it needs `EngineWF` (`Jb/Proofs/Total.lean`) and
  `mlpgCreate_is_ml` (`Jb/Proofs/MlpgMl.lean`), which first meet in this file. -/

theorem mlpgStates_of_zero (c : Condition K) (s : StreamIn K) (j : Nat) (h : j = 1 → c.halfTone = 0) :
    mlpgStates c s j = s.stream := by
  unfold mlpgStates
  split_ifs with h1
  · rw [h h1, applyHalfTone_zero]
  · rfl

theorem engineStream_ml (c : Condition K) (inp : EngineIn K) (hwf : EngineWF c inp) (durs : List Nat)
    (hdl : durs.length = inp.duration.length) (j : Nat) (hj : j < inp.nstream)
    (s : StreamIn K) (hs : inp.streams[j]? = some s) (thr : K) (hthr : c.msdThreshold[j]? = some thr)
    (hgv : s.gv = none) (hstatic : s.windows.head? = some [1])
    (hnonneg : ∀ st ∈ s.stream, ∀ p ∈ st.params, 0 ≤ (withIvar p).vari)
    (hdflt : 0 ≤ (withIvar (⟨0, 0⟩ : MeanVari K)).vari)
    (hpos : ∀ st ∈ s.stream, ∀ m, m < s.vectorLength → 0 < (withIvar (st.params.getD m ⟨0, 0⟩)).vari) :
    ∃ traj, engineStream c inp durs j = .ok traj ∧ traj.length = durs.sum ∧
      ∀ m, m < s.vectorLength →
        let mask := maskCreate s.stream thr durs
        let T := (mask.filter id).length
        let obs := createObs s.vectorLength (mlpgStates c s j) durs mask s.windows m
        let col := filterBy (traj.map fun r => r.getD m 0) mask
        col.length = T ∧
        ∀ c' : Fin T → K, loglik (obsOf s.windows obs T) c' ≤ loglik (obsOf s.windows obs T) (fun t => col.getD t.val 0) := by
  obtain ⟨hswf, hsl, -⟩ := hwf.wf s (List.mem_of_getElem? hs)
  obtain ⟨gw, hgw⟩ : ∃ gw, c.gvWeight[j]? = some gw := ⟨_, List.getElem?_eq_getElem (by have := hwf.gvw; omega)⟩
  have hd : durs.length ≤ (mlpgStates c s j).length := by rw [mlpgStates_length]; omega
  obtain ⟨traj, hr, hrl, -⟩ := mlpgCreate_shape gw thr { s with stream := mlpgStates c s j } durs
    (streamWF_mlpgStates hswf c j) hd (by simp [hgv])
  rw [engineStream_eq hs hgw hthr]
  refine ⟨traj, hr, hrl, fun m hm => ?_⟩
  have hml := mlpgCreate_is_ml gw thr { s with stream := mlpgStates c s j } durs hgv hstatic hd
    (fun st hst => by
      -- the precisions MLPG sees are those of `s.stream`: `apply_additional_half_tone` moves static means only
      obtain ⟨st', hm', e⟩ := mlpgStates_precisions c s j st hst
      exact List.forall_mem_map.1 (e ▸ List.forall_mem_map.2 (hnonneg st' hm')))
    hdflt
    (fun st hst m' hm' => by
      obtain ⟨st', hmem', e⟩ := mlpgStates_precisions c s j st hst
      have := List.getD_map (f := fun p : MeanVari K => (withIvar p).vari) (l := st.params) (d := ⟨0, 0⟩) (n := m')
      rw [← this, e, List.getD_map]
      exact hpos st' hmem' m' hm')
    traj hr m hm
  dsimp only at hml
  generalize hmk : maskCreate (mlpgStates c s j) thr durs = mk at hml
  rw [mlpgStates_mask] at hmk
  subst hmk
  exact hml

/-- **C05 for the whole library.** `s` is `Models::model_stream(j)` for these voices, weights and labels. The four
    hypotheses on `s` are not consequences of `VoicesWF`; that `s` is well-shaped (`StreamWF`) and has one state per
    duration is. The conclusion is that of `C05.create_total_and_ml` for the library's own durations and the state
    Gaussians handed to MLPG: `s.stream` itself for spectrum and low-pass, and for log-F0 `s.stream` after
    `apply_additional_half_tone` (`mlpgStates`; equal to `s.stream` when the half tone is 0: `mlpgStates_of_zero`). -/
theorem params_maximum_likelihood (big : K) (voices : List ParsedVoice) (iw : IW K) (h : VoicesWF voices iw)
    (v0 : ParsedVoice) (hv0 : voices.head? = some v0) (ops : List (CondOp K)) (f : Condition K → Bool)
    (labels : List (List Char)) (times : List (K × K))
    (halign : (condOf (K := K) v0 ops).alignment = true → times.length = labels.length)
    (j : Nat) (hj : j < v0.global.nstreams)
    (s : StreamIn K) (hs : modelStream big voices iw labels v0.global.nstates j = .ok s)
    (hgv : s.gv = none) (hstatic : s.windows.head? = some [1])
    (hnonneg : ∀ st ∈ s.stream, ∀ p ∈ st.params, 0 ≤ (withIvar p).vari)
    (hdflt : 0 ≤ (withIvar (⟨0, 0⟩ : MeanVari K)).vari)
    (hpos : ∀ st ∈ s.stream, ∀ m, m < s.vectorLength → 0 < (withIvar (st.params.getD m ⟨0, 0⟩)).vari) :
    ∃ p thr, params big voices iw ops f labels times = .ok p ∧
      durations big voices iw ops f labels times = .ok p.durations ∧
      stream big voices iw ops labels times p.durations j = .ok (p.traj j) ∧
      (condOf (K := K) v0 ops).msdThreshold[j]? = some thr ∧
      (p.traj j).length = p.durations.sum ∧
      ∀ m, m < s.vectorLength →
        let mask := maskCreate s.stream thr p.durations
        let T := (mask.filter id).length
        let obs := createObs s.vectorLength (mlpgStates (condOf v0 ops) s j) p.durations mask s.windows m
        let col := filterBy ((p.traj j).map fun r => r.getD m 0) mask
        col.length = T ∧
        ∀ c' : Fin T → K, loglik (obsOf s.windows obs T) c' ≤ loglik (obsOf s.windows obs T) (fun t => col.getD t.val 0) := by
  obtain ⟨inp, hin, hwf, -⟩ := engineIn_total big voices iw h v0 hv0 ops labels times halign
  obtain ⟨p, hp, hd, hpl, -, hst, -, -, -⟩ := engineParams_total (condOf v0 ops) (f (condOf v0 ops)) inp hwf
  have hnstream := (engineIn_fields hv0 hin).2.1
  obtain ⟨thr, hthr⟩ : ∃ thr, (condOf (K := K) v0 ops).msdThreshold[j]? = some thr :=
    ⟨_, List.getElem?_eq_getElem (by rw [(condOf_lengths (K := K) v0 ops).1]; exact hj)⟩
  obtain ⟨traj, ht, htl, hml⟩ := engineStream_ml (condOf v0 ops) inp hwf p.durations hpl j
    (by rw [hnstream]; exact hj) s ((engineIn_stream_iff hv0 hin).2 ⟨hj, hs⟩) thr hthr hgv hstatic hnonneg hdflt hpos
  have hpj := hst j (by rw [hnstream]; exact hj)
  obtain rfl : traj = p.traj j := ok.inj (ht.symm.trans hpj)
  simp only [params_eq, durations_eq, stream_eq, withInputs_of_ok hv0 hin]
  exact ⟨p, thr, hp, hd, hpj, hthr, htl, hml⟩

/-! ### C02: the generator `Engine::generator` builds -/

/-- `Engine::synthesize` is `Engine::generator` followed by `generate_all` -/
theorem engineSynthesize_eq_generator (fx : Fix) (c : Condition K) (b : Bool) (inp : EngineIn K) :
    engineSynthesize fx c b inp =
      (engineGenerator c b inp).bind (Gen.finish (vocoderFrame fx c.fperiod) true) := by
  unfold engineSynthesize engineGenerator
  cases engineParams c b inp with
  | err e => rfl
  | panic s => rfl
  | ok p =>
    simp only
    cases speechGeneratorNewOk p <;> rfl

/-- `engineGenerator` builds the vocoder `engineVoc` and the frame list `GenParams.frames` of `engineSynthesize_eq`: it
    is the generator parameters, the checks of `SpeechGenerator::new`, and then a generator at frame 0 -/
theorem engineGenerator_eq (c : Condition K) (b : Bool) (inp : EngineIn K) :
    engineGenerator c b inp = (engineParams c b inp).bind fun p =>
      if speechGeneratorNewOk p then
        .ok { fperiod := c.fperiod, frames := p.frames, next := 0, voc := engineVoc c inp }
      else .panic "speech.rs:SpeechGenerator::new" := by
  unfold engineGenerator
  cases engineParams c b inp with
  | ok p =>
    simp only [bind_ok]
    cases speechGeneratorNewOk p <;> rfl
  | err e => rfl
  | panic s => rfl

theorem engineGenerator_ok {c : Condition K} {b : Bool} {inp : EngineIn K}
    {g : Gen (VocoderSt K) (List K × List K × List K)} (h : engineGenerator c b inp = .ok g) :
    ∃ p, engineParams c b inp = .ok p ∧ speechGeneratorNewOk p = true ∧
      g = { fperiod := c.fperiod, frames := p.frames, next := 0, voc := engineVoc c inp } := by
  rw [engineGenerator_eq] at h
  obtain ⟨p, hp, h⟩ := bind_eq_ok_iff.1 h
  split at h
  · exact ⟨p, hp, ‹_›, (ok.inj h).symm⟩
  · cases h

theorem engineGenerator_of_params {c : Condition K} {b : Bool} {inp : EngineIn K} {p : GenParams K}
    (hp : engineParams c b inp = .ok p) (hchk : speechGeneratorNewOk p = true) :
    engineGenerator c b inp =
      .ok { fperiod := c.fperiod, frames := p.frames, next := 0, voc := engineVoc c inp } := by
  rw [engineGenerator_eq, hp, bind_ok, if_pos hchk]

/-! ## III. The interpolation weights `synthesize` reads; a rejected update changes nothing (C19, C10) -/

theorem synthesize_congr_iw (fx : Fix) (big : K) (voices : List ParsedVoice) (iw iw' : IW K) (ops : List (CondOp K))
    (f : Condition K → Bool) (labels : List (List Char)) (times : List (K × K)) (hd : iw.duration = iw'.duration)
    (hs : ∀ v0, voices.head? = some v0 → ∀ i < v0.global.nstreams, StreamWeightsSame iw iw' i) :
    synthesize fx big voices iw ops f labels times = synthesize fx big voices iw' ops f labels times := by
  simp only [synthesize_eq, withInputs_congr_iw big voices iw iw' labels times _ hd hs]

theorem params_congr_iw (big : K) (voices : List ParsedVoice) (iw iw' : IW K) (ops : List (CondOp K))
    (f : Condition K → Bool) (labels : List (List Char)) (times : List (K × K)) (hd : iw.duration = iw'.duration)
    (hs : ∀ v0, voices.head? = some v0 → ∀ i < v0.global.nstreams, StreamWeightsSame iw iw' i) :
    params big voices iw ops f labels times = params big voices iw' ops f labels times := by
  simp only [params_eq, withInputs_congr_iw big voices iw iw' labels times _ hd hs]

theorem synthesize_after_rejected (fx : Fix) (big : K) (voices : List ParsedVoice) (eps : K) (iw₀ : IW K)
    (wops : List (IWOp K)) (op : IWOp K) (ops : List (CondOp K)) (f : Condition K → Bool)
    (labels : List (List Char)) (times : List (K × K))
    (h : ∀ s, IWOp.apply eps (applyIWHistory eps iw₀ wops) op ≠ .ok s) :
    synthesize fx big voices (applyIWHistory eps iw₀ (wops ++ [op])) ops f labels times =
      synthesize fx big voices (applyIWHistory eps iw₀ wops) ops f labels times := by
  rw [applyIWHistory_drop_rejected eps iw₀ wops [] op h, List.append_nil]

/-- the sum is checked first: such an update is rejected whatever its length and index -/
theorem synthesize_bad_sum_update (fx : Fix) (big : K) (voices : List ParsedVoice) (eps : K) (iw₀ : IW K)
    (wops₁ wops₂ : List (IWOp K)) (op : IWOp K) (ops : List (CondOp K)) (f : Condition K → Bool)
    (labels : List (List Char)) (times : List (K × K))
    (hs : ¬ |(match op with | .dur w => w | .par _ w => w | .gv _ w => w).sum - 1| ≤ eps) :
    synthesize fx big voices (applyIWHistory eps iw₀ (wops₁ ++ op :: wops₂)) ops f labels times =
      synthesize fx big voices (applyIWHistory eps iw₀ (wops₁ ++ wops₂)) ops f labels times := by
  rw [applyIWHistory_drop_rejected eps iw₀ wops₁ wops₂ op fun s hok => ?_]
  rw [IWOp.apply_bad_sum eps _ op hs] at hok
  cases hok

theorem synthesize_same_weights (fx : Fix) (big : K) (voices : List ParsedVoice) (eps eps' : K) (iw₀ iw₀' : IW K)
    (wops wops' : List (IWOp K)) (ops : List (CondOp K)) (f : Condition K → Bool)
    (labels : List (List Char)) (times : List (K × K))
    (h : ∀ q, (applyIWHistory eps iw₀ wops).select q = (applyIWHistory eps' iw₀' wops').select q) :
    synthesize fx big voices (applyIWHistory eps iw₀ wops) ops f labels times =
      synthesize fx big voices (applyIWHistory eps' iw₀' wops') ops f labels times :=
  synthesize_congr_iw fx big voices _ _ ops f labels times (h .dur) (fun _ _ i _ => ⟨h (.par i), h (.gv i)⟩)

/-- C10 "which weights" for the whole library: an accepted update changes only the quantity it addresses -/
theorem modelStream_accepted_other (big : K) (voices : List ParsedVoice) (eps : K) (iw s : IW K) (op : IWOp K)
    (hok : IWOp.apply eps iw op = .ok s) (labels : List (List Char)) (n j : Nat)
    (hj : op.target ≠ .par j ∧ op.target ≠ .gv j) :
    modelStream big voices s labels n j = modelStream big voices iw labels n j := by
  obtain ⟨-, hsel⟩ := IWOp.apply_ok_select eps iw s op hok
  exact modelStream_congr_iw big voices s iw labels n j
    ⟨hsel (.par j) (Ne.symm hj.1), hsel (.gv j) (Ne.symm hj.2)⟩

theorem modelsDuration_accepted_other (voices : List ParsedVoice) (eps : K) (iw s : IW K) (op : IWOp K)
    (hok : IWOp.apply eps iw op = .ok s) (labels : List (List Char)) (hj : op.target ≠ .dur) :
    modelsDuration voices s labels = modelsDuration voices iw labels := by
  obtain ⟨-, hsel⟩ := IWOp.apply_ok_select eps iw s op hok
  exact modelsDuration_congr_iw voices s iw labels (hsel .dur (Ne.symm hj))

/-! ## IV. Blank lines in the label text do not change the waveform (C17) -/

/-- `Engine::synthesize(lines)`: `Labels::load_from_strings` (line grammar, external parsers `parseF` / `parseL`, times
    scaled by `rate` = `sampling_frequency / (fperiod · 1e7)` of the condition — any `rate` here), `Labels::new` (gap
    filling), then synthesis. A load error is returned before anything is synthesised. -/
def synthesizeLines (fx : Fix) (big : K) (voices : List ParsedVoice) (iw : IW K) (ops : List (CondOp K))
    (f : Condition K → Bool) (parseF : List Nat → Option K) (parseL : List Nat → Option (List Char)) (rate : K)
    (lines : List (List Nat)) : Except LabelError (Outcome Unit (List K)) :=
  match loadLines parseF parseL rate lines with
  | .error e => .error e
  | .ok xs => .ok (synthesize fx big voices iw ops f (xs.map (·.1)) (fillTimes (xs.map (·.2))))

/-- one blank line anywhere; all blank lines at once: `C17.library_blank_lines_ignored` (both are
    `loadLines_filter_blank`) -/
theorem synthesizeLines_blank (fx : Fix) (big : K) (voices : List ParsedVoice) (iw : IW K) (ops : List (CondOp K))
    (f : Condition K → Bool) (parseF : List Nat → Option K) (parseL : List Nat → Option (List Char)) (rate : K)
    (pre post : List (List Nat)) :
    synthesizeLines fx big voices iw ops f parseF parseL rate (pre ++ [] :: post) =
      synthesizeLines fx big voices iw ops f parseF parseL rate (pre ++ post) := by
  unfold synthesizeLines
  rw [← loadLines_filter_blank _ _ _ (pre ++ [] :: post), ← loadLines_filter_blank _ _ _ (pre ++ post),
    List.filter_append, List.filter_append, List.filter_cons_of_neg (by simp)]

/-! ## V. `SpeedOnly` is needed -/

namespace Cex

section
/- Scalars for the counterexample: `exp x := x + 1` has `exp 0 = 1` and makes `set_volume(1)` store a volume `≠ 1`
   (`db = 1/9`); `ofF32 _ := 4` makes every duration mean 4, so one label of `Tiny.voice` lasts 4 frames at speed 1 and
   `round(4 / 2) = 2` at speed 2. -/
local instance cexTransc : Transc ℚ := ⟨fun x => x + 1, id, id, id, fun x _ => x⟩
local instance cexConsts : Consts ℚ := ⟨10, 3, 1 / 17, 1 / 9, -10000000000, 3, 1 / 10 ^ 100⟩
local instance cexMlpgConsts : MlpgConsts ℚ := ⟨10 ^ 19, 1 / 10 ^ 19, 10 ^ 38⟩
local instance cexFromFile : FromFile ℚ := ⟨fun _ => 4, fun _ => 1⟩

/-- a speed test that (wrongly) looks at the volume -/
def volTest : Condition ℚ → Bool := fun c => decide (c.volume = 1)

theorem volTest_not_speedOnly : ¬ SpeedOnly volTest := by
  intro h
  have := h { Condition.default with volume := 1 } { Condition.default with volume := 2 } rfl
  simp [volTest] at this

theorem frames1_tiny (l : List Char) : frames1 [Tiny.voice] (Tiny.weights (K := ℚ)) [l] = 4 := by
  have hfl : ⌊(4 : ℚ) + 2⁻¹⌋₊ = 4 := by
    rw [Nat.floor_eq_iff (by norm_num)]; norm_num
  unfold frames1
  rw [show modelsDuration [Tiny.voice] (Tiny.weights (K := ℚ)) [l] = .ok [⟨4 * 1, 4 * 1⟩] from rfl]
  simp [estimateDuration, roundMax1_def, hfl]

theorem condOf_speed_vol (v : ℚ) :
    (condOf (K := ℚ) Tiny.voice ([.speed 2] ++ [.vol v])).alignment = false ∧
    (condOf (K := ℚ) Tiny.voice ([.speed 2] ++ [.vol v])).speed = 2 ∧
    (condOf (K := ℚ) Tiny.voice ([.speed 2] ++ [.vol v])).fperiod = 240 ∧
    (condOf (K := ℚ) Tiny.voice ([.speed 2] ++ [.vol v])).volume = v * (1 / 9) + 1 := by
  rw [condOf_snoc, stepC_vol]
  refine ⟨rfl, ?_, rfl, ?_⟩
  · show maxS (2 : ℚ) speedMin = 2
    unfold maxS speedMin
    norm_num
  · rfl

/-- **the hypothesis on the speed test cannot be dropped from `synthesize_volume`**: with a speed test that reads the
    volume (`volTest`; not `SpeedOnly`), `exp 0 = 1`, the voice set `[Tiny.voice]` (which is `VoicesWF`), one label and
    the history `set_speed(2)`, the rendering after `set_volume(1)` has 480 samples and the one after `set_volume(0)`
    has 960 — the former is not a sample-wise multiple of the latter. -/
theorem volume_needs_speedOnly (fx : Fix) (big : ℚ) (l : List Char) :
    Transc.exp (0 : ℚ) = 1 ∧
    synthesize fx big [Tiny.voice] (Tiny.weights (K := ℚ)) ([.speed 2] ++ [.vol 1]) volTest [l] [] ≠
      (synthesize fx big [Tiny.voice] (Tiny.weights (K := ℚ)) ([.speed 2] ++ [.vol 0]) volTest [l] []).map
        fun w => w.map (· * Transc.exp ((1 : ℚ) * Consts.db)) := by
  refine ⟨by show (0 : ℚ) + 1 = 1; norm_num, ?_⟩
  obtain ⟨a1, a2, a3, a4⟩ := condOf_speed_vol 1
  obtain ⟨b1, -, b3, b4⟩ := condOf_speed_vol 0
  -- the speed test answers "not one" after `set_volume(1)`: the speed law; "one" after `set_volume(0)`: `frames1`
  obtain ⟨d1, w1, h1, l1, -, -, s1⟩ := synthesize_speed_law fx big [Tiny.voice] (Tiny.weights (K := ℚ)) Tiny.voicesWF
    Tiny.voice rfl ([CondOp.speed (2 : ℚ)] ++ [CondOp.vol (1 : ℚ)]) volTest [l] [] a1 (List.cons_ne_nil _ _)
    (by unfold volTest; rw [a4]; norm_num)
  obtain ⟨d0, w0, h0, l0, -, -, s0⟩ := synthesize_speed_one fx big [Tiny.voice] (Tiny.weights (K := ℚ)) Tiny.voicesWF
    Tiny.voice rfl ([CondOp.speed (2 : ℚ)] ++ [CondOp.vol (0 : ℚ)]) volTest [l] [] b1
    (by unfold volTest; rw [b4]; norm_num)
  have hfl : ⌊((4 : ℕ) : ℚ) / 2 + 1 / 2⌋₊ = 2 := by
    rw [Nat.floor_eq_iff (by norm_num)]; norm_num
  rw [h1, h0]
  intro he
  have := congrArg List.length (ok.inj he)
  rw [List.length_map, l1, l0, s1, s0, frames1_tiny, a2, a3, b3, roundMax1_def, hfl,
    List.length_singleton] at this
  exact absurd this (by decide)

end

end Cex

end Synth
end Jb
