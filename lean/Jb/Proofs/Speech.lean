/-
  Incremental generation (`Jb/Model/Speech.lean`) against the one-shot waveform `render v0 frames`: a generator at
  cursor `k` whose vocoder state is `stateAfter v0 (frames.take k)` behaves like the cursor machine `specOps` at `k`
  (`runOps_refines`). `render_drop`/`render_chunk` locate the rest and chunk `k` in the one-shot waveform;
  `finishLoop_inv` is the loop invariant of `generate_all`. At the end, what `Jb/Proofs/Engine.lean` needs of
  `render`.
-/
import Jb.Model.Speech

namespace Jb

section
variable {α : Type}

theorem specOps_step_live {w : List α} {fp n k b : Nat} {buf : List α} {rest : List (GenOp × List α)}
    (hk : k < n) (hb : fp ≤ buf.length) :
    specOps w fp n k ((.step b, buf) :: rest) =
      .stepped fp (((w.drop (k * fp)).take fp) ++ buf.drop fp) :: specOps w fp n (k + 1) rest := by
  rw [specOps, if_pos hk, if_neg (Nat.not_lt.2 hb)]

theorem specOps_step_short {w : List α} {fp n k b : Nat} {buf : List α} {rest : List (GenOp × List α)}
    (hk : k < n) (hb : buf.length < fp) :
    specOps w fp n k ((.step b, buf) :: rest) = [.panicked "speech.rs:buffer shorter than fperiod"] := by
  rw [specOps, if_pos hk, if_pos hb]

theorem specOps_step_exhausted {w : List α} {fp n k b : Nat} {buf : List α} {rest : List (GenOp × List α)}
    (hk : n ≤ k) :
    specOps w fp n k ((.step b, buf) :: rest) = .stepped 0 buf :: specOps w fp n k rest := by
  rw [specOps, if_neg (Nat.not_lt.2 hk)]

end

namespace Gen

section
variable {V F α : Type}

theorem render_append (synth : V → F → V × List α) (v : V) (xs ys : List F) :
    render synth v (xs ++ ys) = render synth v xs ++ render synth (stateAfter synth v xs) ys := by
  induction xs generalizing v with
  | nil => simp [render, stateAfter]
  | cons x xs ih => simp [render, stateAfter, ih]

theorem render_length (synth : V → F → V × List α) (fp : Nat)
    (hs : ∀ v f, (synth v f).2.length = fp) (v : V) (xs : List F) :
    (render synth v xs).length = xs.length * fp := by
  induction xs generalizing v with
  | nil => simp [render]
  | cons x xs ih =>
    simp only [render, List.length_append, List.length_cons, ih, hs, Nat.succ_mul]
    omega

theorem stateAfter_append (synth : V → F → V × List α) (v : V) (xs ys : List F) :
    stateAfter synth v (xs ++ ys) = stateAfter synth (stateAfter synth v xs) ys := by
  induction xs generalizing v with
  | nil => simp [stateAfter]
  | cons x xs ih => simp [stateAfter, ih]

theorem render_drop (synth : V → F → V × List α) (fp : Nat)
    (hs : ∀ v f, (synth v f).2.length = fp) (v0 : V) (frames : List F) (k : Nat)
    (hk : k ≤ frames.length) :
    (render synth v0 frames).drop (k * fp) =
      render synth (stateAfter synth v0 (frames.take k)) (frames.drop k) := by
  conv => lhs; rw [← List.take_append_drop k frames, render_append]
  apply List.drop_left'
  rw [render_length synth fp hs, List.length_take, Nat.min_eq_left hk]

theorem stateAfter_take_succ (synth : V → F → V × List α) (v0 : V) (frames : List F) (k : Nat)
    (hk : k < frames.length) :
    stateAfter synth v0 (frames.take (k + 1)) =
      (synth (stateAfter synth v0 (frames.take k)) frames[k]).1 := by
  rw [List.take_add_one, stateAfter_append, List.getElem?_eq_getElem hk]
  simp [stateAfter]

theorem render_chunk (synth : V → F → V × List α) (fp : Nat)
    (hs : ∀ v f, (synth v f).2.length = fp) (v0 : V) (frames : List F) (k : Nat)
    (hk : k < frames.length) :
    ((render synth v0 frames).drop (k * fp)).take fp =
      (synth (stateAfter synth v0 (frames.take k)) frames[k]).2 := by
  rw [render_drop synth fp hs v0 frames k (Nat.le_of_lt hk), List.drop_eq_getElem_cons hk]
  simp only [render]
  exact List.take_left' (hs _ _)

theorem step_live (synth : V → F → V × List α) (g : Gen V F) (buf : List α)
    (h : g.next < g.frames.length) (hb : g.fperiod ≤ buf.length) :
    step synth g buf =
      .ok ({ g with next := g.next + 1, voc := (synth g.voc g.frames[g.next]).1 }, g.fperiod,
           ((synth g.voc g.frames[g.next]).2.take g.fperiod) ++ buf.drop g.fperiod) := by
  unfold step
  rw [List.getElem?_eq_getElem h]
  have : ¬ buf.length < g.fperiod := by omega
  simp [this]

theorem step_short (synth : V → F → V × List α) (g : Gen V F) (buf : List α)
    (h : g.next < g.frames.length) (hb : buf.length < g.fperiod) :
    step synth g buf = .panic "speech.rs:buffer shorter than fperiod" := by
  unfold step
  rw [List.getElem?_eq_getElem h]
  simp [hb]

end

section
variable {V F α : Type} [OfNat α 0]

set_option linter.unusedSectionVars false in
theorem step_exhausted (synth : V → F → V × List α) (g : Gen V F) (buf : List α)
    (h : g.frames.length ≤ g.next) : step synth g buf = .ok (g, 0, buf) := by
  unfold step
  rw [List.getElem?_eq_none h]

/-- Loop invariant of the repaired `generate_all`: the buffer is what has been written followed by
    zeros for the frames still to come. -/
theorem finishLoop_inv (synth : V → F → V × List α) (fp : Nat) (frames : List F)
    (hs : ∀ v f, (synth v f).2.length = fp) (base : Nat) (fuel : Nat) (k : Nat) (v : V) (written : List α)
    (hb : base ≤ k) (hn : k ≤ frames.length) (hf : frames.length - k + 1 ≤ fuel)
    (hw : written.length = (k - base) * fp) :
    finishLoop synth base fuel ⟨fp, frames, k, v⟩ (written ++ List.replicate ((frames.length - k) * fp) 0) =
      .ok (written ++ render synth v (frames.drop k)) := by
  induction fuel generalizing k v written with
  | zero => omega
  | succ fuel ih =>
    unfold finishLoop
    -- the offset `(k - base) * fp` is `written.length`, so `drop`/`take` at the offset split the buffer at `written`
    simp only [← hw, List.length_append, Nat.not_lt.2 (Nat.le_add_right _ _), if_false,
      List.drop_left, List.take_left]
    rcases Nat.lt_or_ge k frames.length with hlt | hge
    · -- live step: the first `fp` zeros are overwritten by the frame's samples
      obtain ⟨m, hm⟩ : ∃ m, frames.length - k = m + 1 := ⟨frames.length - k - 1, by omega⟩
      have hm' : frames.length - (k + 1) = m := by omega
      rw [step_live synth _ _ hlt (by simp [hm, Nat.succ_mul]), List.drop_eq_getElem_cons hlt]
      simp only [render]
      by_cases hz : fp = 0
      · -- frames without samples: the call returns 0 and the loop stops; nothing is left to render
        subst hz
        have := render_length synth 0 hs (synth v frames[k]).1 (frames.drop (k + 1))
        simp only [Nat.mul_zero, List.length_eq_zero_iff] at this
        simp [this, List.length_eq_zero_iff.mp (hs v frames[k])]
      · simp only [hz, if_false, hm, List.take_of_length_le (Nat.le_of_eq (hs _ _)), List.drop_replicate,
          Nat.succ_mul, Nat.add_sub_cancel]
        rw [← List.append_assoc, ← hm', ih (k + 1) _ (written ++ (synth v frames[k]).2) (by omega) hlt
          (by omega) (by rw [List.length_append, hs, hw, ← Nat.succ_mul]; congr 1; omega),
          List.append_assoc]
    · rw [step_exhausted synth _ _ hge]
      simp [Nat.sub_eq_zero_of_le hge, List.drop_eq_nil_of_le hge, render]

theorem finish_fixed (synth : V → F → V × List α) (g : Gen V F)
    (hs : ∀ v f, (synth v f).2.length = g.fperiod) (hn : g.next ≤ g.frames.length) :
    finish synth true g = .ok (render synth g.voc (g.frames.drop g.next)) := by
  have := finishLoop_inv synth g.fperiod g.frames hs g.next (g.frames.length - g.next + 1) g.next g.voc []
    (Nat.le_refl _) hn (Nat.le_refl _) (by simp)
  simpa [finish] using this

/-- `g` is any generator state reachable from a fresh one: `g.voc` is the vocoder state after the
    first `g.next` frames. -/
theorem runOps_refines (synth : V → F → V × List α) (v0 : V) (g : Gen V F)
    (hs : ∀ v f, (synth v f).2.length = g.fperiod) (hn : g.next ≤ g.frames.length)
    (hv : g.voc = stateAfter synth v0 (g.frames.take g.next))
    (ops : List (GenOp × List α)) :
    runOps synth true g ops =
      specOps (render synth v0 g.frames) g.fperiod g.frames.length g.next ops := by
  obtain ⟨fp, frames, k, v⟩ := g
  dsimp only at hs hn hv ⊢
  subst hv
  induction ops generalizing k with
  | nil => rfl
  | cons op rest ih =>
    obtain ⟨o, buf⟩ := op
    cases o with
    | step b =>
      rw [runOps]
      rcases Nat.lt_or_ge k frames.length with hlt | hge
      · by_cases hb : buf.length < fp
        · rw [step_short synth _ buf hlt hb, specOps_step_short hlt hb]
        · rw [step_live synth _ buf hlt (Nat.le_of_not_lt hb),
            specOps_step_live hlt (Nat.le_of_not_lt hb)]
          simp only
          rw [← stateAfter_take_succ synth v0 frames k hlt, ih (k + 1) hlt,
            render_chunk synth fp hs v0 frames k hlt, List.take_of_length_le (Nat.le_of_eq (hs _ _))]
      · rw [step_exhausted synth _ buf hge, specOps_step_exhausted hge]
        simp only
        rw [ih k hn]
    | query =>
      simp only [runOps, specOps, synthesizedFrames]
      rw [ih k hn]
    | finish =>
      simp only [runOps, specOps]
      rw [finish_fixed synth _ hs hn, render_drop synth fp hs v0 frames k hn]

end

/-! what `Jb/Proofs/Engine.lean` needs: the frame fold is `render`, and a gain every frame applies is a gain of the
    rendering -/

section
variable {V F α : Type}

theorem foldl_eq_render (synth : V → F → V × List α) (frames : List F) (out : List α) (v : V) :
    frames.foldl (fun (acc : List α × V) f => (acc.1 ++ (synth acc.2 f).2, (synth acc.2 f).1)) (out, v) =
      (out ++ render synth v frames, stateAfter synth v frames) := by
  induction frames generalizing out v with
  | nil => simp [render, stateAfter]
  | cons f fs ih => simp [render, stateAfter, ih]

/-- a gain that every frame applies to its samples, and otherwise only carries along in the state, is a
    gain of the whole rendering -/
theorem render_scale [Mul α] (synth : V → F → V × List α) (vol : α → V → V) (one : α)
    (h : ∀ g v f, synth (vol g v) f =
      (vol g (synth (vol one v) f).1, (synth (vol one v) f).2.map (· * g))) (g : α) (frames : List F) (v : V) :
    render synth (vol g v) frames = (render synth (vol one v) frames).map (· * g) := by
  induction frames generalizing v with
  | nil => rfl
  | cons f fs ih =>
    have h1 : (synth (vol one v) f).1 = vol one (synth (vol one v) f).1 := congrArg Prod.fst (h one v f)
    simp only [render, h g v f, List.map_append, ih]
    rw [← h1]

end

end Gen
end Jb
