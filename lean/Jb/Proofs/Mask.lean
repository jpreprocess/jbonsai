/-
  State expansion, the MSD mask and `fill` (`Jb/Model/Mlpg.lean`). `boundaryDistances` is, at a voiced frame,
  the pair of lengths of the voiced runs on either side (`boundary_spec`) — which is what makes "the window is
  cut" a statement about the frame's neighbours (`left_cut_iff`, `right_cut_iff`). `filterBy` compacts to the
  voiced frames and `maskFill` is its inverse on them (`maskFill_eq_some`).
-/
import Jb.Model.Mlpg
import Jb.Proofs.ListAux
import Mathlib.Algebra.Order.Field.Basic

namespace Jb

variable {K : Type} [Field K] [LinearOrder K] [IsStrictOrderedRing K]

theorem expand_nil_right {β : Type} (xs : List β) : expand xs [] = [] := by
  simp [expand]

theorem expand_cons {β : Type} (x : β) (xs : List β) (d : Nat) (ds : List Nat) :
    expand (x :: xs) (d :: ds) = List.replicate d x ++ expand xs ds := by
  simp [expand]

theorem expand_map {β γ : Type} (g : β → γ) (xs : List β) (durs : List Nat) :
    expand (xs.map g) durs = (expand xs durs).map g := by
  induction xs generalizing durs with
  | nil => simp [expand]
  | cons x xs ih =>
    cases durs with
    | nil => simp [expand]
    | cons d ds => simp [expand_cons, ih]

theorem expand_length {β : Type} (xs : List β) (durs : List Nat) (h : durs.length ≤ xs.length) :
    (expand xs durs).length = durs.sum := by
  induction xs generalizing durs with
  | nil =>
    cases durs with
    | nil => simp [expand]
    | cons d ds => simp at h
  | cons x xs ih =>
    cases durs with
    | nil => simp [expand]
    | cons d ds =>
      simp only [List.length_cons, Nat.add_le_add_iff_right] at h
      simp [expand_cons, ih ds h]

/-- Frame `f` takes the item of state `s` exactly when `Σ_{k<s} d_k ≤ f < Σ_{k≤s} d_k`. -/
theorem expand_spec {β : Type} (xs : List β) (durs : List Nat) (s f : Nat)
    (hs : s < xs.length) (hs' : s < durs.length)
    (hlo : (durs.take s).sum ≤ f) (hhi : f < (durs.take (s + 1)).sum) :
    (expand xs durs)[f]? = xs[s]? := by
  induction xs generalizing durs s f with
  | nil => exact absurd hs (Nat.not_lt_zero s)
  | cons x xs ih =>
    cases durs with
    | nil => exact absurd hs' (Nat.not_lt_zero s)
    | cons d ds =>
      rw [expand_cons]
      cases s with
      | zero =>
        rw [List.take_succ_cons, List.take_zero, List.sum_cons, List.sum_nil, Nat.add_zero] at hhi
        rw [List.getElem?_append_left (by rwa [List.length_replicate]), List.getElem?_replicate, if_pos hhi,
          List.getElem?_cons_zero]
      | succ s =>
        rw [List.take_succ_cons, List.sum_cons] at hlo hhi
        have hdf : d ≤ f := le_trans (Nat.le_add_right d _) hlo
        rw [List.getElem?_append_right (by rwa [List.length_replicate]), List.length_replicate,
          List.getElem?_cons_succ]
        exact ih ds s (f - d) (Nat.lt_of_succ_lt_succ hs) (Nat.lt_of_succ_lt_succ hs')
          (Nat.le_sub_of_add_le' hlo) (Nat.sub_lt_left_of_lt_add hdf hhi)

theorem mem_expand {β : Type} (xs : List β) (durs : List Nat) (x : β) (h : x ∈ expand xs durs) : x ∈ xs := by
  unfold expand at h
  simp only [List.mem_flatMap, List.mem_replicate] at h
  obtain ⟨⟨a, d⟩, hz, _, rfl⟩ := h
  exact (List.of_mem_zip hz).1

set_option linter.unusedSectionVars false in
theorem mask_antitone (stream : List (StateParam K)) (thr thr' : K) (h : thr ≤ thr') (durs : List Nat)
    (f : Nat) (hv : (maskCreate stream thr' durs)[f]? = some true) :
    (maskCreate stream thr durs)[f]? = some true := by
  unfold maskCreate at hv ⊢
  rw [expand_map, List.getElem?_map] at hv ⊢
  cases hx : (expand stream durs)[f]? with
  | none => simp [hx] at hv
  | some a =>
    simp only [hx, Option.map_some, Option.some.injEq, decide_eq_true_eq] at hv ⊢
    exact lt_of_le_of_lt h hv

set_option linter.unusedSectionVars false in
theorem mask_length_eq (stream : List (StateParam K)) (thr thr' : K) (durs : List Nat) :
    (maskCreate stream thr durs).length = (maskCreate stream thr' durs).length := by
  simp [maskCreate, expand_map]

theorem takeWhile_id_replicate_true (n : Nat) :
    (List.replicate n true).takeWhile id = List.replicate n true := by
  rw [List.takeWhile_replicate]
  exact if_pos rfl

theorem takeWhile_id_append_false (A B : List Bool) :
    (A ++ false :: B).takeWhile id = A.takeWhile id := by
  induction A with
  | nil => simp
  | cons a A ih => cases a <;> simp [ih]

theorem le_takeWhile_id_length_iff (l : List Bool) (n : Nat) :
    n ≤ (l.takeWhile id).length ↔ n ≤ l.length ∧ ∀ k, k < n → l.getD k false = true := by
  induction l generalizing n with
  | nil =>
    refine ⟨fun h => ?_, fun h => h.1⟩
    obtain rfl := Nat.le_zero.1 h
    exact ⟨le_rfl, fun k hk => absurd hk (Nat.not_lt_zero k)⟩
  | cons b r ih =>
    cases n with
    | zero => exact ⟨fun _ => ⟨Nat.zero_le _, fun k hk => absurd hk (Nat.not_lt_zero k)⟩, fun _ => Nat.zero_le _⟩
    | succ n =>
      cases b with
      | false =>
        exact ⟨fun h => absurd h (Nat.not_succ_le_zero n),
          fun h => absurd (h.2 0 (Nat.succ_pos n)) Bool.false_ne_true⟩
      | true =>
        rw [List.takeWhile_cons_of_pos rfl, List.length_cons, List.length_cons, Nat.succ_le_succ_iff,
          Nat.succ_le_succ_iff, ih n, Nat.forall_lt_succ_left]
        exact and_congr_right fun _ => (and_iff_right rfl).symm

theorem takeWhile_id_length_le_filter (l : List Bool) : (l.takeWhile id).length ≤ (l.filter id).length := by
  induction l with
  | nil => simp
  | cons b r ih => cases b <;> simp [ih]

theorem leftDists_length (m : List Bool) (f l : Nat) : (leftDists m f l).length = m.length := by
  induction m generalizing f l with
  | nil => simp [leftDists]
  | cons b r ih => cases b <;> simp [leftDists, ih]

/-- General form: `leftDists m f0 l` where the current voiced run started `f0 - l` frames ago. -/
theorem leftDists_getElem? (m : List Bool) (f0 l k : Nat) (hl : l ≤ f0) (hk : k < m.length) :
    (leftDists m f0 l)[k]? = some
      (if m.getD k false then
        (((m.take k).reverse ++ List.replicate (f0 - l) true).takeWhile id).length
       else 0) := by
  induction m generalizing f0 l k with
  | nil => exact absurd hk (Nat.not_lt_zero k)
  | cons b r ih =>
    cases k with
    | zero =>
      cases b with
      | true =>
        rw [leftDists, List.getElem?_cons_zero, List.getD_cons_zero, if_pos rfl, List.take_zero,
          List.reverse_nil, List.nil_append, takeWhile_id_replicate_true, List.length_replicate]
      | false => rfl
    | succ k =>
      have hk' : k < r.length := Nat.lt_of_succ_lt_succ hk
      rw [List.getD_cons_succ, List.take_succ_cons, List.reverse_cons, List.append_assoc,
        List.singleton_append]
      cases b with
      | true =>
        rw [leftDists, List.getElem?_cons_succ, ih (f0 + 1) l k (Nat.le_succ_of_le hl) hk',
          Nat.succ_sub hl, List.replicate_succ]
      | false =>
        rw [leftDists, List.getElem?_cons_succ, ih (f0 + 1) (f0 + 1) k le_rfl hk', Nat.sub_self,
          List.replicate_zero, List.append_nil, takeWhile_id_append_false]

theorem leftDists_zero_getElem? (m : List Bool) (k : Nat) (hk : k < m.length) :
    (leftDists m 0 0)[k]? = some
      (if m.getD k false then ((m.take k).reverse.takeWhile id).length else 0) := by
  have h := leftDists_getElem? m 0 0 k le_rfl hk
  rwa [Nat.sub_self, List.replicate_zero, List.append_nil] at h

theorem rightDists_getElem? (m : List Bool) (f : Nat) (hf : f < m.length) :
    (leftDists m.reverse 0 0).reverse[f]? = some
      (if m.getD f false then ((m.drop (f + 1)).takeWhile id).length else 0) := by
  have hlen : (leftDists m.reverse 0 0).length = m.length := by
    rw [leftDists_length, List.length_reverse]
  -- entry `f` of the reversed list is entry `n − 1 − f` of `leftDists` on the reversed mask, and a reversed `take`
  -- of the reversed mask is a `drop`
  rw [List.getElem?_reverse (by omega), hlen,
    leftDists_zero_getElem? m.reverse (m.length - 1 - f) (by rw [List.length_reverse]; omega),
    List.getD_eq_getElem?_getD, List.getElem?_reverse (by omega), ← List.getD_eq_getElem?_getD,
    List.take_reverse, List.reverse_reverse, show m.length - 1 - (m.length - 1 - f) = f by omega,
    show m.length - (m.length - 1 - f) = f + 1 by omega]

theorem boundary_spec (mask : List Bool) (f : Nat) (hf : f < mask.length) :
    (boundaryDistances mask)[f]? = some
      (if mask.getD f false then
        (((mask.take f).reverse.takeWhile id).length, ((mask.drop (f + 1)).takeWhile id).length)
       else (0, 0)) := by
  unfold boundaryDistances
  rw [List.getElem?_zip_eq_some]
  rw [leftDists_zero_getElem? mask f hf, rightDists_getElem? mask f hf]
  cases mask.getD f false <;> simp

/-- A dynamic window with `lw` taps to the left is cut (precision zeroed) iff one of the `lw` frames
    before `f` is unvoiced or lies before the utterance start. Of `hf` only `f ≤ mask.length` is used. -/
theorem left_cut_iff (mask : List Bool) (f lw : Nat) (hf : f < mask.length) :
    ((mask.take f).reverse.takeWhile id).length < lw ↔
      ¬ (lw ≤ f ∧ ∀ k, k < lw → mask.getD (f - 1 - k) false = true) := by
  rw [← Nat.not_le, le_takeWhile_id_length_iff, List.length_reverse, List.length_take, min_eq_left hf.le]
  refine not_congr (and_congr_right fun hlw => forall₂_congr fun k hk => ?_)
  rw [getD_take_reverse mask hf.le (hk.trans_le hlw)]

/-- `left_cut_iff` needs `f ≤ mask.length`: past the end of the mask the left-hand side still counts the
    mask's last frames. -/
theorem left_cut_iff_counterexample :
    ¬ ((([true].take 2).reverse.takeWhile id).length < 1 ↔
      ¬ (1 ≤ 2 ∧ ∀ k, k < 1 → [true].getD (2 - 1 - k) false = true)) := by
  decide

/-- A dynamic window with `rw` taps to the right is cut iff one of the `rw` frames after `f` is
    unvoiced or lies past the utterance end. -/
theorem right_cut_iff (mask : List Bool) (f rw : Nat) (hf : f < mask.length) :
    ((mask.drop (f + 1)).takeWhile id).length < rw ↔
      ¬ (f + rw < mask.length ∧ ∀ k, k < rw → mask.getD (f + 1 + k) false = true) := by
  rw [← Nat.not_le, le_takeWhile_id_length_iff, List.length_drop]
  refine not_congr (and_congr (by omega) (forall₂_congr fun k _ => ?_))
  rw [List.getD_eq_getElem?_getD, List.getD_eq_getElem?_getD, List.getElem?_drop]

/-- `right_cut_iff` needs `f < mask.length` when `rw = 0`: on the empty mask both sides of `<` are 0, while
    `0 + 0 < 0` fails. -/
theorem right_cut_iff_counterexample :
    ¬ (((([] : List Bool).drop (0 + 1)).takeWhile id).length < 0 ↔
      ¬ (0 + 0 < ([] : List Bool).length ∧
        ∀ k, k < 0 → ([] : List Bool).getD (0 + 1 + k) false = true)) := by
  decide

theorem filterBy_cons_true {β : Type} (x : β) (xs : List β) (ms : List Bool) :
    filterBy (x :: xs) (true :: ms) = x :: filterBy xs ms := by
  simp [filterBy]

theorem filterBy_cons_false {β : Type} (x : β) (xs : List β) (ms : List Bool) :
    filterBy (x :: xs) (false :: ms) = filterBy xs ms := by
  simp [filterBy]

theorem mem_filterBy {β : Type} (xs : List β) (mask : List Bool) (x : β) (h : x ∈ filterBy xs mask) : x ∈ xs := by
  unfold filterBy at h
  simp only [List.mem_map, List.mem_filter] at h
  obtain ⟨⟨a, b⟩, ⟨hz, _⟩, rfl⟩ := h
  exact (List.of_mem_zip hz).1

theorem filterBy_map {β γ : Type} (g : β → γ) (xs : List β) (mask : List Bool) :
    filterBy (xs.map g) mask = (filterBy xs mask).map g := by
  simp only [filterBy, List.zip_map_left, List.filter_map, List.map_map]
  rfl

/-- filtering by the mask a map that reads the mask: only its values on `true` matter -/
theorem filterBy_zip_map {β γ : Type} (F : β × Bool → γ) (xs : List β) (mask : List Bool) :
    filterBy ((xs.zip mask).map F) mask = (filterBy xs mask).map fun x => F (x, true) := by
  induction xs generalizing mask with
  | nil => rfl
  | cons x xs ih =>
    cases mask with
    | nil => rfl
    | cons b bs =>
      cases b with
      | true => rw [List.zip_cons_cons, List.map_cons, filterBy_cons_true, filterBy_cons_true, List.map_cons, ih bs]
      | false => rw [List.zip_cons_cons, List.map_cons, filterBy_cons_false, filterBy_cons_false, ih bs]

theorem filterBy_length {β : Type} (xs : List β) (mask : List Bool) (h : xs.length = mask.length) :
    (filterBy xs mask).length = (mask.filter id).length := by
  induction mask generalizing xs with
  | nil => simp [filterBy]
  | cons b ms ih =>
    cases xs with
    | nil => simp at h
    | cons x xs =>
      have h' : xs.length = ms.length := by simpa using h
      cases b with
      | true => rw [filterBy_cons_true]; simp [ih xs h']
      | false => rw [filterBy_cons_false]; simp [ih xs h']

/-- the `s`-th voiced frame: its frame index `f`, with `s` voiced frames before it and all the others but itself
    after it -/
theorem exists_frame_of_voiced_index {β : Type} (xs : List β) (mask : List Bool) (h : xs.length = mask.length) (s : Nat)
    (hs : s < (mask.filter id).length) :
    ∃ f, f < mask.length ∧ mask[f]? = some true ∧ ((mask.take f).filter id).length = s ∧
      ((mask.drop (f + 1)).filter id).length + s + 1 = (mask.filter id).length ∧
      (filterBy xs mask)[s]? = xs[f]? := by
  induction mask generalizing xs s with
  | nil => exact absurd hs (Nat.not_lt_zero s)
  | cons b ms ih =>
    cases xs with
    | nil => cases h
    | cons x xs =>
      have h' : xs.length = ms.length := Nat.succ.inj h
      cases b with
      | true =>
        rw [filterBy_cons_true]
        cases s with
        | zero => exact ⟨0, Nat.zero_lt_succ _, rfl, rfl, by simp, rfl⟩
        | succ s =>
          obtain ⟨f, h1, h2, h3, h4, h5⟩ := ih xs h' s (by simpa using hs)
          exact ⟨f + 1, Nat.succ_lt_succ h1, h2, by simpa using h3,
            by simp only [List.drop_succ_cons, List.filter_cons_of_pos, id_eq, List.length_cons]; omega, h5⟩
      | false =>
        obtain ⟨f, h1, h2, h3, h4, h5⟩ := ih xs h' s (by simpa using hs)
        exact ⟨f + 1, Nat.succ_lt_succ h1, h2, by simpa using h3, by simpa using h4, h5⟩

theorem maskFill_eq_some {β : Type} {mask : List Bool} {xs : List β} {d : β} {r : List β}
    (h : maskFill mask xs d = some r) :
    (mask.filter id).length ≤ xs.length ∧ r.length = mask.length ∧
      filterBy r mask = xs.take (mask.filter id).length ∧ ∀ f : Nat, mask[f]? = some false → r[f]? = some d := by
  induction mask generalizing xs r with
  | nil =>
    obtain rfl : [] = r := Option.some.inj h
    exact ⟨Nat.zero_le _, rfl, rfl, fun f hf => by simp at hf⟩
  | cons b ms ih =>
    cases b with
    | true =>
      cases xs with
      | nil => cases h
      | cons x xs =>
        obtain ⟨r', hr', rfl⟩ := Option.map_eq_some_iff.1 h
        obtain ⟨h1, h2, h3, h4⟩ := ih hr'
        refine ⟨Nat.succ_le_succ h1, congrArg Nat.succ h2, by rw [filterBy_cons_true, h3]; rfl, fun f hf => ?_⟩
        cases f with
        | zero => cases hf
        | succ f => exact h4 f hf
    | false =>
      obtain ⟨r', hr', rfl⟩ := Option.map_eq_some_iff.1 h
      obtain ⟨h1, h2, h3, h4⟩ := ih hr'
      refine ⟨h1, congrArg Nat.succ h2, by rw [filterBy_cons_false, h3]; rfl, fun f hf => ?_⟩
      cases f with
      | zero => rfl
      | succ f => exact h4 f hf

theorem maskFill_isSome {β : Type} (mask : List Bool) (xs : List β) (d : β)
    (h : (mask.filter id).length ≤ xs.length) : ∃ r, maskFill mask xs d = some r := by
  induction mask generalizing xs with
  | nil => exact ⟨[], rfl⟩
  | cons b ms ih =>
    cases b with
    | true =>
      cases xs with
      | nil => cases h
      | cons x xs =>
        obtain ⟨r, hr⟩ := ih xs (Nat.le_of_succ_le_succ h)
        exact ⟨x :: r, by rw [maskFill, hr]; rfl⟩
    | false =>
      obtain ⟨r, hr⟩ := ih xs h
      exact ⟨d :: r, by rw [maskFill, hr]; rfl⟩

theorem maskFill_spec {β : Type} (mask : List Bool) (xs : List β) (d : β)
    (h : xs.length = (mask.filter id).length) :
    ∃ r, maskFill mask xs d = some r ∧ r.length = mask.length ∧ filterBy r mask = xs ∧
      ∀ f : Nat, mask[f]? = some false → r[f]? = some d := by
  obtain ⟨r, hr⟩ := maskFill_isSome mask xs d h.ge
  obtain ⟨-, h2, h3, h4⟩ := maskFill_eq_some hr
  exact ⟨r, hr, h2, by rw [h3, List.take_of_length_le h.le], h4⟩

theorem maskFill_map {β : Type} (g : β → β) (mask : List Bool) (xs : List β) (d : β) (r : List β)
    (h : maskFill mask xs d = some r) :
    maskFill mask (xs.map g) d = some (List.zipWith (fun b x => if b then g x else x) mask r) := by
  induction mask generalizing xs r with
  | nil =>
    simp only [maskFill, Option.some.injEq] at h
    subst h
    simp [maskFill]
  | cons b ms ih =>
    cases b with
    | true =>
      cases xs with
      | nil => simp [maskFill] at h
      | cons x xs =>
        simp only [maskFill, Option.map_eq_some_iff] at h
        obtain ⟨r', hr', rfl⟩ := h
        simp [maskFill, ih xs r' hr']
    | false =>
      simp only [maskFill, Option.map_eq_some_iff] at h
      obtain ⟨r', hr', rfl⟩ := h
      simp [maskFill, ih xs r' hr']

end Jb
