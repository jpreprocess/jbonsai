/-
  C15 through the global-variance stage: the GV iteration commutes with a constant shift of the static means.
  `conv_gv` rescales around the mean of the eligible frames; the Newton-like step uses `A·par − W'Pμ`, which is
  unchanged when `par` and the static means move together (the rows of `A = W'PW` sum to the static precision,
  `Jb/Proofs/Shift.lean`); the GV terms only see `par − mean`. The HMM objective itself changes by a constant
  that does not depend on the iterate, so the step-size adaptation (which compares objectives of successive
  iterations) takes the same decisions.

  Everything is said of one band store `m` of a symmetric positive definite matrix `A` (`BandSystem`) whose
  right-hand side is moved by `h` times the row sums of `A`: the solution moves by `h` because
  `A (c + h·1) = A c + h · A 1` and there is no second solution, and the GV iteration follows
  (`BandSystem.par_shift`). `MlpgProblem.calc_shiftStatic` says that this is what shifting the static means does;
  the trajectory without GV is the case `gv = none`.
-/
import Jb.Proofs.Shift
import Jb.Proofs.Gv

namespace Jb

section
variable {K : Type} [Field K]

/-- The per-frame update of `next_step`: word for word the body of the lambda in `gvNextStep`, with what it reads
    from the matrix and the lists as arguments (so `gvNextStep_eq_map` is `rfl`). The factors `1 *` are the constants
    `W1`, `W2` of the Rust source. -/
def gvsNext (W L : Nat) (step mean vari gm gv : K) (p : K) (s : Bool) (gt r a0 : K) : K :=
  p + step *
    (if s then
      1 / (-(1 : K) * (1 / ((W * L : Nat) : K)) * a0
        - 1 * ((2 : Nat) : K) / ((L * L : Nat) : K)
          * (((L - 1 : Nat) : K) * gv * (vari - gm) + ((2 : Nat) : K) * gv * (p - mean) * (p - mean))) *
        (1 * (1 / ((W * L : Nat) : K)) * (-gt + r) +
          1 * (-((2 : Nat) : K) * gv * (vari - gm) / (L : K)) * (p - mean))
    else
      1 / (-(1 : K) * (1 / ((W * L : Nat) : K)) * a0
        - 1 * ((2 : Nat) : K) / ((L * L : Nat) : K)
          * (((L - 1 : Nat) : K) * gv * (vari - gm) + ((2 : Nat) : K) * gv * (p - mean) * (p - mean))) *
        (1 * (1 / ((W * L : Nat) : K)) * (-gt + r)))

theorem gvNextStep_eq_map (m : MlpgMatrix K) (par : List K) (sw : List Bool) (g : List K)
    (step mean vari gm gv : K) :
    gvNextStep m par sw g step mean vari gm gv =
      ((par.zip sw).zip (g.zip (m.wum.zip (m.wuw.map fun r => r.getD 0 0)))).map fun x =>
        gvsNext m.winSize m.length step mean vari gm gv x.1.1 x.1.2 x.2.1 x.2.2.1 x.2.2.2 := rfl

theorem gvsNext_shift {W L : Nat} {step mean vari gm gv h p : K} {s : Bool} {gt r gt' r' a0 : K}
    (key : -gt' + r' = -gt + r) :
    gvsNext W L step (mean + h) vari gm gv (p + h) s gt' r' a0 =
      gvsNext W L step mean vari gm gv p s gt r a0 + h := by
  -- apart from the leading `p`, `p` and `mean` occur only as `p − mean`, and `gt`, `r` only as `−gt + r`
  unfold gvsNext
  rw [key, add_sub_add_right_eq_sub, add_right_comm]

theorem gvNextStep_getD (m : MlpgMatrix K) {par : List K} {sw : List Bool} {g : List K} {step mean vari gm gv : K}
    {T t : Nat} (ht : t < T) (hp : par.length = T) (hs : sw.length = T) (hg : g.length = T) (hr : m.wum.length = T)
    (hw : m.wuw.length = T) :
    (gvNextStep m par sw g step mean vari gm gv).getD t 0 =
      gvsNext m.winSize m.length step mean vari gm gv (par.getD t 0) (sw.getD t false) (g.getD t 0)
        (m.wum.getD t 0) (bandAt m.wuw t 0) := by
  -- the five zipped lists have `T` entries each, so `t` is inside every `zip`
  have hd : (m.wuw.map fun r => r.getD 0 0).length = T := by rw [List.length_map, hw]
  have hrd : (m.wum.zip (m.wuw.map fun r => r.getD 0 0)).length = T := by rw [List.length_zip, hr, hd, Nat.min_self]
  have hgrd : (g.zip (m.wum.zip (m.wuw.map fun r => r.getD 0 0))).length = T := by
    rw [List.length_zip, hg, hrd, Nat.min_self]
  have hps : (par.zip sw).length = T := by rw [List.length_zip, hp, hs, Nat.min_self]
  rw [gvNextStep_eq_map,
    getD_map_of_lt _ _ (by rw [List.length_zip, hps, hgrd, Nat.min_self]; exact ht) 0 ((0, false), (0, (0, 0))),
    getD_zip _ _ _ (hps ▸ ht) (hgrd ▸ ht), getD_zip _ _ _ (hp ▸ ht) (hs ▸ ht), getD_zip _ _ _ (hg ▸ ht) (hrd ▸ ht),
    getD_zip _ _ _ (hr ▸ ht) (hd ▸ ht), getD_band_col]

/-- the constant by which the HMM objective moves -/
def objShiftConst (m : MlpgMatrix K) (T : Nat) (h : K) (A : Nat → Nat → K) : K :=
  (1 * (1 / ((m.winSize * m.length : Nat) : K))) *
    (h * (∑ t ∈ Finset.range T, m.wum.getD t 0) +
      1 / ((2 : Nat) : K) * h ^ 2 * ∑ t ∈ Finset.range T, ∑ t' ∈ Finset.range T, A t t')

variable [LinearOrder K]

/-- the objective `-(hmmobj + gvobj)` of one iteration -/
def gvObjective (m : MlpgMatrix K) (sw : List Bool) (gm gv : K) (gvLen : Nat) (half : K) (par : List K) : K :=
  -((hmmobjDerivative m par).1 +
    -half * 1 * (calcGv par sw gvLen).2 * gv * ((calcGv par sw gvLen).2 - ((2 : Nat) : K) * gm))

/-- the step-size rule of `parmgen` (`step'` in `gvParmgen.loop`) -/
def adaptStep (sd si : K) (i : Nat) (step prev obj : K) : K :=
  if i > 1 then (if prev < obj then step * sd else if obj < prev then step * si else step) else step

theorem gvLoop_succ (m : MlpgMatrix K) (sw : List Bool) (gm gv : K) (gvLen : Nat) (half sd si : K)
    (i fuel : Nat) (par : List K) (step prev : K) :
    gvParmgen.loop m sw gm gv gvLen half sd si i (fuel + 1) par step prev =
      gvParmgen.loop m sw gm gv gvLen half sd si (i + 1) fuel
        (gvNextStep m par sw (hmmobjDerivative m par).2
          (adaptStep sd si i step prev (gvObjective m sw gm gv gvLen half par))
          (calcGv par sw gvLen).1 (calcGv par sw gvLen).2 gm gv)
        (adaptStep sd si i step prev (gvObjective m sw gm gv gvLen half par))
        (gvObjective m sw gm gv gvLen half par) := by
  rw [gvParmgen.loop]
  rfl

/-! ### `g = A·par` for a band store of a symmetric `A` -/

section
variable {m : MlpgMatrix K} {T : Nat} {A : Nat → Nat → K} (S : BandSystem m T A)
include S

/-- `g = A·c` -/
theorem BandSystem.g_getD (c : List K) (hc : c.length = T) (t : Nat) (ht : t < T) :
    (hmmobjDerivative m c).2.getD t 0 = ∑ t' ∈ Finset.range T, A t t' * c.getD t' 0 := by
  rw [hmmobjDerivative_snd_getD m c T S.wuw_length S.length hc S.width_pos t ht, S.mulVec c t ht]

theorem BandSystem.g_shift (h : K) (par : List K) (hp : par.length = T) (t : Nat) (ht : t < T) :
    (hmmobjDerivative m (par.map (· + h))).2.getD t 0 =
      (hmmobjDerivative m par).2.getD t 0 + h * ∑ t' ∈ Finset.range T, A t t' := by
  rw [S.g_getD _ (by simpa using hp) t ht, S.g_getD par hp t ht, Finset.mul_sum, ← Finset.sum_add_distrib]
  refine Finset.sum_congr rfl fun t' ht' => ?_
  rw [getD_map_of_lt (· + h) par (hp ▸ Finset.mem_range.mp ht') 0 0, mul_add, mul_comm h]

/-- `p·(A 1) = 1·(A p)` -/
theorem BandSystem.sum_mul_rowsum (par : List K) (hp : par.length = T) :
    ∑ t ∈ Finset.range T, par.getD t 0 * ∑ t' ∈ Finset.range T, A t t' =
      ∑ t ∈ Finset.range T, (hmmobjDerivative m par).2.getD t 0 := by
  rw [Finset.sum_congr rfl fun t ht => S.g_getD par hp t (Finset.mem_range.mp ht)]
  simp only [Finset.mul_sum]
  rw [Finset.sum_comm]
  exact Finset.sum_congr rfl fun t _ => Finset.sum_congr rfl fun t' _ => by rw [S.symm t' t, mul_comm]

end

variable [IsStrictOrderedRing K]

theorem adaptStep_shift (sd si : K) (i : Nat) (step prev obj prev' κ : K) (hprev : i > 1 → prev' = prev - κ) :
    adaptStep sd si i step prev' (obj - κ) = adaptStep sd si i step prev obj := by
  unfold adaptStep
  by_cases hi : i > 1
  · rw [if_pos hi, if_pos hi, hprev hi]
    simp only [sub_lt_sub_iff_right]
  · rw [if_neg hi, if_neg hi]

/-- the objective `Σ c·p·(r − ½ g)` under `p ↦ p + h`, `r ↦ r + h·s`, `g ↦ g + h·s`, when `Σ p·s = Σ g` -/
theorem sum_obj_shift (T : Nat) (c h : K) (p r g s : Nat → K)
    (hsym : ∑ t ∈ Finset.range T, p t * s t = ∑ t ∈ Finset.range T, g t) :
    ∑ t ∈ Finset.range T, c * (p t + h) * (r t + h * s t - 1 / ((2 : Nat) : K) * (g t + h * s t)) =
      ∑ t ∈ Finset.range T, c * p t * (r t - 1 / ((2 : Nat) : K) * g t) +
        c * (h * ∑ t ∈ Finset.range T, r t + 1 / ((2 : Nat) : K) * h ^ 2 * ∑ t ∈ Finset.range T, s t) := by
  rw [show (1 : K) / ((2 : Nat) : K) = 1 / 2 by norm_num]
  -- termwise; the last bracket sums to zero by `hsym`
  have hterm : ∀ t ∈ Finset.range T, c * (p t + h) * (r t + h * s t - 1 / 2 * (g t + h * s t)) =
      c * p t * (r t - 1 / 2 * g t) + (c * h * r t + c * (1 / 2) * h ^ 2 * s t) +
        (c * (1 / 2) * h * (p t * s t) - c * (1 / 2) * h * g t) := fun t _ => by ring
  rw [Finset.sum_congr rfl hterm, Finset.sum_add_distrib, Finset.sum_add_distrib, Finset.sum_add_distrib,
    Finset.sum_sub_distrib, ← Finset.mul_sum, ← Finset.mul_sum, ← Finset.mul_sum, ← Finset.mul_sum, hsym]
  ring

/-! ### a system whose right-hand side is moved by `h` times the row sums of `A` -/

section
variable {m : MlpgMatrix K} {T : Nat} {A : Nat → Nat → K} (S : BandSystem m T A)
variable {r' : List K} (hr' : r'.length = T) {h : K}
  (hs : ∀ t, t < T → r'.getD t 0 = m.wum.getD t 0 + h * ∑ t' ∈ Finset.range T, A t t')
include S hr' hs

/-- the solution moves by `h`: `A (c + h·1) = A c + h · A 1`, and there is no second solution -/
theorem BandSystem.solve_shift : ({ m with wum := r' } : MlpgMatrix K).solve = m.solve.map (· + h) := by
  obtain ⟨hl, hsol⟩ := S.solve_spec
  obtain ⟨hl', hsol'⟩ := (S.withWum r' hr').solve_spec
  refine S.unique _ _ hl' (by rw [List.length_map, hl]) fun t ht => ?_
  rw [hsol' t ht, hs t ht, ← hsol t ht, Finset.mul_sum, ← Finset.sum_add_distrib]
  refine Finset.sum_congr rfl fun t' ht' => ?_
  rw [getD_map_of_lt (· + h) m.solve (hl.symm ▸ Finset.mem_range.mp ht') 0 0]
  ring

/-- the HMM objective moves by a constant -/
theorem BandSystem.obj_shift (par : List K) (hp : par.length = T) :
    (hmmobjDerivative { m with wum := r' } (par.map (· + h))).1 = (hmmobjDerivative m par).1 + objShiftConst m T h A := by
  rw [hmmobjDerivative_fst { m with wum := r' } _ T S.wuw_length S.length hr' (by simpa using hp),
    hmmobjDerivative_fst m par T S.wuw_length S.length S.wum_length hp, objShiftConst,
    ← sum_obj_shift T _ h _ _ _ _ (S.sum_mul_rowsum par hp)]
  refine Finset.sum_congr rfl fun t ht => ?_
  have ht := Finset.mem_range.mp ht
  rw [hmmobjDerivative_snd_withWum]
  dsimp only
  rw [getD_map_of_lt (· + h) par (hp ▸ ht) 0 0, hs t ht, S.g_shift h par hp t ht]

omit [IsStrictOrderedRing K] in
theorem BandSystem.nextStep_shift (par : List K) (sw : List Bool) (step mean vari gm gv : K)
    (hp : par.length = T) (hsw : sw.length = T) :
    gvNextStep { m with wum := r' } (par.map (· + h)) sw
        (hmmobjDerivative { m with wum := r' } (par.map (· + h))).2 step (mean + h) vari gm gv =
      (gvNextStep m par sw (hmmobjDerivative m par).2 step mean vari gm gv).map (· + h) := by
  rw [hmmobjDerivative_snd_withWum]
  have hp' : (par.map (· + h)).length = T := by simpa using hp
  have hg := hmmobjDerivative_length m par T S.wuw_length S.length hp
  have hg' := hmmobjDerivative_length m _ T S.wuw_length S.length hp'
  have hL : (gvNextStep m par sw _ step mean vari gm gv).length = T :=
    gvNextStep_length S.wuw_length S.wum_length hp hsw hg
  have hL' : (gvNextStep { m with wum := r' } _ sw _ step (mean + h) vari gm gv).length = T :=
    gvNextStep_length S.wuw_length hr' hp' hsw hg'
  refine List.ext_getElem (by rw [hL', List.length_map, hL]) fun t ht ht₂ => ?_
  rw [List.getElem_map, ← List.getD_eq_getElem _ 0 ht, ← List.getD_eq_getElem _ 0 (by simpa using ht₂)]
  have ht : t < T := hL' ▸ ht
  rw [gvNextStep_getD { m with wum := r' } ht hp' hsw hg' hr' S.wuw_length,
    gvNextStep_getD m ht hp hsw hg S.wum_length S.wuw_length,
    getD_map_of_lt (· + h) par (hp ▸ ht) 0 0]
  -- `A·par − W'Pμ` does not see the shift
  refine gvsNext_shift ?_
  rw [S.g_shift h par hp t ht, hs t ht]
  ring

/-- the loop invariant: the iterate is shifted by `h`, the step size is the same, the previous objective is
    smaller by `κ` (once it is read, `i > 1`) -/
theorem BandSystem.loop_shift (sw : List Bool) (gm gv : K) (gvLen : Nat) (half sd si : K)
    (hsw : sw.length = T) (hg : gvLen = (sw.filter id).length) (hpos : 0 < gvLen) (fuel : Nat) :
    ∀ (i : Nat) (par : List K) (step prev prev' : K), par.length = T →
      (i > 1 → prev' = prev - objShiftConst m T h A) →
      gvParmgen.loop { m with wum := r' } sw gm gv gvLen half sd si i fuel (par.map (· + h)) step prev' =
        (gvParmgen.loop m sw gm gv gvLen half sd si i fuel par step prev).map (· + h) := by
  induction fuel with
  | zero =>
    intro i par step prev prev' _ _
    simp [gvParmgen.loop]
  | succ fuel ih =>
    intro i par step prev prev' hp hprev
    have hgv := calcGv_map_add par sw gvLen h (by rw [hsw, hp]) hg hpos
    have hobj : gvObjective { m with wum := r' } sw gm gv gvLen half (par.map (· + h)) =
        gvObjective m sw gm gv gvLen half par - objShiftConst m T h A := by
      unfold gvObjective
      rw [hgv, S.obj_shift hr' hs par hp]
      ring
    rw [gvLoop_succ, gvLoop_succ, hobj, adaptStep_shift sd si i step prev _ prev' _ hprev, hgv,
      S.nextStep_shift hr' hs par sw _ _ _ gm gv hp hsw]
    exact ih _ _ _ _ _ (gvNextStep_length S.wuw_length S.wum_length hp hsw
      (hmmobjDerivative_length m par T S.wuw_length S.length hp)) fun _ => rfl

variable [Transc K]

theorem BandSystem.parmgen_shift (par : List K) (sw : List Bool) (gm gv : K) (hp : par.length = T)
    (hsw : sw.length = T) :
    gvParmgen { m with wum := r' } (par.map (· + h)) sw gm gv = (gvParmgen m par sw gm gv).map (· + h) := by
  by_cases h0 : (sw.filter id).length = 0
  · rw [gvParmgen_no_eligible _ _ sw gm gv h0, gvParmgen_no_eligible m par sw gm gv h0]
  · have hpos : 0 < (sw.filter id).length := Nat.pos_of_ne_zero h0
    rw [gvParmgen_of_eligible _ _ sw gm gv h0, gvParmgen_of_eligible m par sw gm gv h0,
      convGv_map_add par sw _ gm h (by rw [hsw, hp]) rfl hpos]
    exact S.loop_shift hr' hs sw gm gv _ _ _ _ hsw rfl hpos _ _ _ _ _ _
      ((convGv_length_eq par sw _ gm (hp.trans hsw.symm)).trans hp) fun hc => absurd hc (by omega)

/-- the whole `MlpgMatrix::par` (ML solution, then GV) moves by `h` -/
theorem BandSystem.par_shift (gv : Option (List (MeanVari K) × List Bool)) (vi : Nat) (gw : K) (durs : List Nat)
    (mask : List Bool) (hsw : ∀ g sw, gv = some (g, sw) → (filterBy (expand sw durs) mask).length = T) :
    ({ m with wum := r' } : MlpgMatrix K).par gv vi gw durs mask = (m.par gv vi gw durs mask).map (· + h) := by
  rcases gv with _ | ⟨g, sw⟩
  · exact S.solve_shift hr' hs
  · rw [MlpgMatrix.par_some, MlpgMatrix.par_some, S.solve_shift hr' hs]
    exact S.parmgen_shift hr' hs _ _ _ _ S.solve_spec.1 (hsw g sw rfl)

end

variable [Transc K]

/-- **`MlpgMatrix::par` commutes with a shift of the static means.** `m`, `m'` are the matrices `calc_wuw_and_wum`
    builds from the observations and from the observations with `h` added to the static means. -/
theorem MlpgProblem.par_shiftStatic {windows : List (List K)} {obs : List (List (MeanVari K))} {T : Nat}
    (P : MlpgProblem windows obs T) (hsum : ∀ w ∈ windows.tail, w.sum = 0) (h : K) {m m' : MlpgMatrix K}
    (hm : calcWuwWum windows obs = some m) (hm' : calcWuwWum windows (shiftStatic obs h) = some m')
    (gv : Option (List (MeanVari K) × List Bool)) (vi : Nat) (gw : K) (durs : List Nat) (mask : List Bool)
    (hsw : ∀ g sw, gv = some (g, sw) → (filterBy (expand sw durs) mask).length = T) :
    m'.par gv vi gw durs mask = (m.par gv vi gw durs mask).map (· + h) := by
  obtain ⟨e, hl', hs⟩ := P.calc_shiftStatic hsum h hm hm'
  rw [e]
  exact (P.calc hm).2.par_shift hl' hs gv vi gw durs mask hsw

end

set_option linter.unusedSectionVars false

section
variable {K : Type} [Field K] [LinearOrder K] [IsStrictOrderedRing K] [Transc K] [Consts K] [MlpgConsts K]

/-- **Shift law for MLPG**: the trajectory without GV, `gv = none`. -/
theorem mlpg_shift (windows : List (List K)) (obs : List (List (MeanVari K))) (T : Nat)
    (hstatic : windows.head? = some [1]) (hlen : windows.length = obs.length)
    (hobs : ∀ o ∈ obs, o.length = T) (hedge : EdgeZero windows obs T)
    (hnonneg : ∀ o ∈ obs, ∀ mv ∈ o, 0 ≤ mv.vari) (hpos : ∀ mv ∈ obs.headD [], 0 < mv.vari)
    (hsum : ∀ w ∈ windows.tail, w.sum = 0)
    (h : K) (m m' : MlpgMatrix K)
    (hm : calcWuwWum windows obs = some m) (hm' : calcWuwWum windows (shiftStatic obs h) = some m') :
    m'.solve = m.solve.map (· + h) :=
  MlpgProblem.par_shiftStatic ⟨hstatic, hlen, hobs, hedge, hnonneg, hpos⟩ hsum h hm hm' none 0 0 [] [] nofun

end

variable {K : Type} [Field K] [LinearOrder K] [IsStrictOrderedRing K] [FloorRing K]
  [Transc K] [Consts K] [MlpgConsts K]

theorem gvs_nextStep_def (m : MlpgMatrix K) (par : List K) (sw : List Bool) (g : List K)
    (step mean vari gm gv : K) :
    gvNextStep m par sw g step mean vari gm gv =
      ((par.zip sw).zip (g.zip (m.wum.zip (m.wuw.map fun r => r.getD 0 0)))).map fun x =>
        gvsNext m.winSize m.length step mean vari gm gv x.1.1 x.1.2 x.2.1 x.2.2.1 x.2.2.2 :=
  gvNextStep_eq_map m par sw g step mean vari gm gv

set_option linter.unusedVariables false in
/-- `MlpgProblem.par_shiftStatic` with the hypotheses written out (`hmask` is not needed) -/
theorem par_shift (windows : List (List K)) (obs : List (List (MeanVari K))) (T : Nat)
    (hstatic : windows.head? = some [1]) (hlen : windows.length = obs.length)
    (hobs : ∀ o ∈ obs, o.length = T) (hedge : EdgeZero windows obs T)
    (hnonneg : ∀ o ∈ obs, ∀ mv ∈ o, 0 ≤ mv.vari) (hpos : ∀ mv ∈ obs.headD [], 0 < mv.vari)
    (hsum : ∀ w ∈ windows.tail, w.sum = 0)
    (h : K) (m m' : MlpgMatrix K)
    (hm : calcWuwWum windows obs = some m) (hm' : calcWuwWum windows (shiftStatic obs h) = some m')
    (gv : Option (List (MeanVari K) × List Bool)) (vi : Nat) (gw : K) (durs : List Nat) (mask : List Bool)
    (hmask : (mask.filter id).length = T)
    (hsw : ∀ g sw, gv = some (g, sw) → (filterBy (expand sw durs) mask).length = T) :
    m'.par gv vi gw durs mask = (m.par gv vi gw durs mask).map (· + h) :=
  MlpgProblem.par_shiftStatic ⟨hstatic, hlen, hobs, hedge, hnonneg, hpos⟩ hsum h hm hm' gv vi gw durs mask hsw

end Jb
