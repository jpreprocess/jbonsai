/-
  `calc_hmmobj_derivative` (`Jb/Model/Mlpg.lean`: `hmmobjDerivative`) in closed form: the gradient part `g` is the
  banded product `A·par` of `Jb/Proofs/Ldl.lean` (`hmmobjDerivative_snd_getD`), the objective is
  `Σ_t w · par_t · (r_t − ½ g_t)` (`hmmobjDerivative_fst`). The model computes `g` with whole-list operations
  (shifts, `zip`, `take`, padding); each is read entry by entry with `getD`, whose default `0` is also what the
  code's range checks leave in place.
-/
import Jb.Proofs.Ldl

namespace Jb

variable {K : Type} [Field K]

theorem shiftLeft_length (i : Nat) (l : List K) : (shiftLeft i l).length = l.length := by
  rw [shiftLeft, List.length_append, List.length_drop, List.length_replicate]
  omega

theorem shiftRight_length (i : Nat) (l : List K) : (shiftRight i l).length = l.length := by
  rw [shiftRight, List.length_take, List.length_append, List.length_replicate]
  omega

theorem shiftLeft_getD (i : Nat) (l : List K) (t : Nat) : (shiftLeft i l).getD t 0 = l.getD (t + i) 0 :=
  getD_drop_append_replicate l i _ t 0

theorem shiftRight_getD (i : Nat) (l : List K) (t : Nat) :
    (shiftRight i l).getD t 0 = if i ≤ t ∧ t < l.length then l.getD (t - i) 0 else 0 :=
  getD_take_replicate_append l i t 0

/-- entry `t` of an entrywise product; past either end both sides are `0` -/
theorem getD_zip_mul (l1 l2 : List K) (t : Nat) :
    ((l1.zip l2).map fun (a, p) => a * p).getD t 0 = l1.getD t 0 * l2.getD t 0 := by
  by_cases h : t < l1.length ∧ t < l2.length
  · rw [getD_map_of_lt _ _ (by rw [List.length_zip]; omega) 0 (0, 0), getD_zip _ _ _ h.1 h.2]
  · rw [List.getD_eq_default _ _ (by rw [List.length_map, List.length_zip]; omega)]
    rcases Nat.lt_or_ge t l1.length with h1 | h1
    · rw [List.getD_eq_default l2 _ (by omega), mul_zero]
    · rw [List.getD_eq_default l1 _ h1, zero_mul]

/-- column `i` of the band store, as `calc_hmmobj_derivative` reads it -/
theorem getD_band_col (rows : List (List K)) (i t : Nat) :
    (rows.map fun r => r.getD i 0).getD t 0 = bandAt rows t i :=
  List.getD_map rows [] (·.getD i 0)

/-- the terms `wuw[t][i] · par[t+i]` of off-diagonal `i` -/
def hmmFwd (m : MlpgMatrix K) (par : List K) (i : Nat) : List K :=
  (((m.wuw.map fun r => r.getD i 0).zip (shiftLeft i par)).map fun (a, p) => a * p).take (m.length - i) ++
    List.replicate (min i m.length) 0

/-- the terms `wuw[t−i][i] · par[t−i]` of off-diagonal `i` -/
def hmmBwd (m : MlpgMatrix K) (par : List K) (i : Nat) : List K :=
  shiftRight i (((m.wuw.map fun r => r.getD i 0).zip par).map fun (a, p) => a * p)

/-- one pass (off-diagonal `i0 + 1`) of the loop in `calc_hmmobj_derivative` -/
def hmmStep (m : MlpgMatrix K) (par : List K) (g : List K) (i0 : Nat) : List K :=
  (g.zip ((hmmFwd m par (i0 + 1)).zip (hmmBwd m par (i0 + 1)))).map fun (x, (f, b)) => x + f + b

theorem hmmobjDerivative_snd_eq (m : MlpgMatrix K) (par : List K) :
    (hmmobjDerivative m par).2 =
      (List.range (m.width - 1)).foldl (hmmStep m par)
        (((m.wuw.map fun r => r.getD 0 0).zip par).map fun (a, p) => a * p) := rfl

theorem hmmobjDerivative_snd_withWum (m : MlpgMatrix K) (r : List K) (par : List K) :
    (hmmobjDerivative { m with wum := r } par).2 = (hmmobjDerivative m par).2 := rfl

theorem hmmFwd_getD (m : MlpgMatrix K) (par : List K) (i t : Nat) :
    (hmmFwd m par i).getD t 0 = if t + i < m.length then bandAt m.wuw t i * par.getD (t + i) 0 else 0 := by
  rw [hmmFwd, getD_take_append_replicate, getD_zip_mul, getD_band_col, shiftLeft_getD]
  exact if_congr (by omega) rfl rfl

section
variable (m : MlpgMatrix K) (par : List K) (T : Nat) (h1 : m.wuw.length = T) (h2 : m.length = T) (hp : par.length = T)
include h1 hp

theorem hmmBwd_length (i : Nat) : (hmmBwd m par i).length = T := by
  rw [hmmBwd, shiftRight_length, List.length_map, List.length_zip, List.length_map, h1, hp, Nat.min_self]

theorem hmmBwd_getD (i t : Nat) (ht : t < T) :
    (hmmBwd m par i).getD t 0 = if i ≤ t then bandAt m.wuw (t - i) i * par.getD (t - i) 0 else 0 := by
  rw [hmmBwd, shiftRight_getD, getD_zip_mul, getD_band_col, List.length_map, List.length_zip, List.length_map, h1, hp,
    Nat.min_self]
  exact if_congr (and_iff_left ht) rfl rfl

include h2

theorem hmmFwd_length (i : Nat) : (hmmFwd m par i).length = T := by
  rw [hmmFwd, List.length_append, List.length_take, List.length_map, List.length_zip, List.length_map,
    shiftLeft_length, List.length_replicate, h1, h2, hp, Nat.min_self, Nat.min_eq_left (Nat.sub_le T i)]
  omega

theorem hmmStep_length (g : List K) (hg : g.length = T) (i0 : Nat) : (hmmStep m par g i0).length = T := by
  rw [hmmStep, List.length_map, List.length_zip, List.length_zip, hg, hmmFwd_length m par T h1 h2 hp,
    hmmBwd_length m par T h1 hp, Nat.min_self, Nat.min_self]

theorem hmmobjDerivative_length : (hmmobjDerivative m par).2.length = T := by
  rw [hmmobjDerivative_snd_eq]
  refine List.foldlRecOn (motive := fun g : List K => g.length = T) _ _ ?_ fun g hg i0 _ =>
    hmmStep_length m par T h1 h2 hp g hg i0
  rw [List.length_map, List.length_zip, List.length_map, h1, hp, Nat.min_self]

theorem hmmStep_getD (g : List K) (hg : g.length = T) (i0 t : Nat) (ht : t < T) :
    (hmmStep m par g i0).getD t 0 = g.getD t 0 +
      ((if t + (i0 + 1) < T then bandAt m.wuw t (i0 + 1) * par.getD (t + (i0 + 1)) 0 else 0) +
      (if i0 + 1 ≤ t then bandAt m.wuw (t - (i0 + 1)) (i0 + 1) * par.getD (t - (i0 + 1)) 0 else 0)) := by
  have hF := hmmFwd_length m par T h1 h2 hp (i0 + 1)
  have hB := hmmBwd_length m par T h1 hp (i0 + 1)
  rw [← h2, ← hmmFwd_getD, ← hmmBwd_getD m par T h1 hp _ t ht,
    List.getD_eq_getElem _ _ (by rw [hmmStep_length m par T h1 h2 hp g hg]; exact ht),
    List.getD_eq_getElem _ _ (hg ▸ ht), List.getD_eq_getElem _ _ (hF ▸ ht), List.getD_eq_getElem _ _ (hB ▸ ht)]
  simp only [hmmStep, List.getElem_map, List.getElem_zip, add_assoc]

/-- **`g = A·par`** in the banded form used by the LDL lemmas -/
theorem hmmobjDerivative_snd_getD (hw : 1 ≤ m.width) (t : Nat) (ht : t < T) :
    (hmmobjDerivative m par).2.getD t 0 = bandMulVec m.width m.wuw par t := by
  obtain ⟨n, hn⟩ : ∃ n, m.width = n + 1 := ⟨m.width - 1, by omega⟩
  -- every pass keeps the length and adds its two terms at `t`
  obtain ⟨-, hsum⟩ := foldl_add_spec (fun g : List K => g.length = T) (fun g (_ : Unit) => g.getD t 0)
    (hmmStep m par) (fun i0 _ =>
      (if t + (i0 + 1) < T then bandAt m.wuw t (i0 + 1) * par.getD (t + (i0 + 1)) 0 else 0) +
      (if i0 + 1 ≤ t then bandAt m.wuw (t - (i0 + 1)) (i0 + 1) * par.getD (t - (i0 + 1)) 0 else 0))
    (List.range n) (fun g hg i0 _ => ⟨hmmStep_length m par T h1 h2 hp g hg i0,
      fun _ => hmmStep_getD m par T h1 h2 hp g hg i0 t ht⟩)
    (((m.wuw.map fun r => r.getD 0 0).zip par).map fun (a, p) => a * p)
    (by rw [List.length_map, List.length_zip, List.length_map, h1, hp, Nat.min_self])
  rw [hmmobjDerivative_snd_eq, hn, Nat.add_sub_cancel, hsum (), sum_map_range, getD_zip_mul, getD_band_col]
  -- the passes are the off-diagonals `j = i0 + 1` of the two sums of `bandMulVec`; `j = 0` is the start value
  unfold bandMulVec
  rw [Finset.sum_range_succ', Finset.sum_range_succ', Finset.sum_add_distrib, h1]
  simp only [Nat.add_zero, if_pos ht, Nat.sub_zero]
  rw [if_neg (by omega)]
  have e : ∀ i0 : Nat, (1 ≤ i0 + 1 ∧ i0 + 1 ≤ t) ↔ i0 + 1 ≤ t := fun i0 => ⟨fun h => h.2, fun h => ⟨by omega, h⟩⟩
  simp only [e]
  ring

end

theorem foldl_zip3_eq_sum_range (c hf : K) (p r g : List K) (T : Nat) (hp : p.length = T) (hr : r.length = T)
    (hg : g.length = T) :
    (p.zip (r.zip g)).foldl (fun acc (x : K × K × K) => acc + c * x.1 * (x.2.1 - hf * x.2.2)) 0 =
      ∑ t ∈ Finset.range T, c * p.getD t 0 * (r.getD t 0 - hf * g.getD t 0) := by
  rw [foldl_add_map (fun x : K × K × K => c * x.1 * (x.2.1 - hf * x.2.2)), zero_add, ← sum_map_range]
  refine congrArg List.sum (List.ext_getElem (by simp [hp, hr, hg]) fun i _ hi => ?_)
  simp only [List.length_map, List.length_range] at hi
  rw [List.getElem_map, List.getElem_map, List.getElem_range, List.getElem_zip, List.getElem_zip,
    List.getD_eq_getElem _ _ (hp ▸ hi), List.getD_eq_getElem _ _ (hr ▸ hi), List.getD_eq_getElem _ _ (hg ▸ hi)]

theorem hmmobjDerivative_fst (m : MlpgMatrix K) (par : List K) (T : Nat) (h1 : m.wuw.length = T)
    (h2 : m.length = T) (h3 : m.wum.length = T) (hp : par.length = T) :
    (hmmobjDerivative m par).1 = ∑ t ∈ Finset.range T,
      (1 * (1 / ((m.winSize * m.length : Nat) : K))) * par.getD t 0 *
        (m.wum.getD t 0 - 1 / ((2 : Nat) : K) * (hmmobjDerivative m par).2.getD t 0) :=
  foldl_zip3_eq_sum_range _ _ par m.wum _ T hp h3 (hmmobjDerivative_length m par T h1 h2 hp)

end Jb
