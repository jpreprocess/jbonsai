/-
  The mel-cepstral post-filter `postfilterMcp` (`postfilter_mcp` of `src/vocoder/cepstrum.rs`): when it is the
  identity, and what it does to each coefficient otherwise.
-/
import Jb.Proofs.Cepstrum

namespace Jb

variable {K : Type} [Field K]

/-- the sharpening step of `postfilter_mcp` on the MLSA coefficients: `b₁ − βα·b₂`, orders ≥ 2 times `1 + β` -/
def pfSharpen (alpha beta : K) (b : List K) : List K :=
  (List.range b.length).zip b |>.map fun (k, x) =>
    if k = 1 then b.getD 1 0 - beta * alpha * b.getD 2 0 else if k ≥ 2 then x * (1 + beta) else x

theorem pfSharpen_length (alpha beta : K) (b : List K) : (pfSharpen alpha beta b).length = b.length := by
  simp [pfSharpen]

theorem pfSharpen_getD (alpha beta : K) (b : List K) (k : Nat) :
    (pfSharpen alpha beta b).getD k 0 = if k = 1 then b.getD 1 0 - beta * alpha * b.getD 2 0
      else if k ≥ 2 then b.getD k 0 * (1 + beta) else b.getD k 0 := by
  by_cases hk : k < b.length
  · simp [pfSharpen, List.getD_eq_getElem?_getD, hk]
  · have h0 : ∀ j, k ≤ j → b.getD j 0 = 0 := fun j hj => List.getD_eq_default b 0 (by omega)
    rw [List.getD_eq_default _ _ (by rw [pfSharpen_length]; omega)]
    split_ifs with h1
    · rw [h0 1 (by omega), h0 2 (by omega), mul_zero, sub_zero]
    · rw [h0 k le_rfl, zero_mul]
    · exact (h0 k le_rfl).symm

section
variable [LinearOrder K] [Transc K]

theorem postfilterMcp_noop (fx : Fix) (alpha beta : K) (c : List K) (h : ¬ 0 < beta ∨ c.length ≤ 2) :
    postfilterMcp fx alpha beta c = c := by
  unfold postfilterMcp
  rw [if_neg]
  rintro ⟨h1, h2⟩
  rcases h with h | h
  · exact h h1
  · omega

/-- the active branch of `postfilter_mcp`: sharpen `b = mc2b α c`, then shift `b₀` by `½ ln(e₁/e₂)` -/
theorem postfilterMcp_pos (fx : Fix) (alpha beta : K) (c : List K) (hb : 0 < beta) (hl : 2 < c.length) :
    postfilterMcp fx alpha beta c =
      b2mc alpha ((pfSharpen alpha beta (mc2b alpha c)).set 0 ((pfSharpen alpha beta (mc2b alpha c)).getD 0 0 +
        Transc.ln (b2en fx alpha (mc2b alpha c) / b2en fx alpha (pfSharpen alpha beta (mc2b alpha c))) /
          ((2 : Nat) : K))) := by
  unfold postfilterMcp
  rw [if_pos ⟨hb, hl⟩]
  rfl

end

section
variable [LinearOrder K] [IsStrictOrderedRing K] [Transc K] [Consts K]

/-- For `β > 0` and more than two coefficients: orders ≥ 2 are multiplied by `1+β`, order 1 is unchanged,
    order 0 is shifted by `½ ln(e₁/e₂) − β α² b₂` where `e₁, e₂` are the impulse-response energies
    (`b2en`) before and after the scaling and `b = mc2b α c`. -/
theorem postfilterMcp_coeffs (fx : Fix) (alpha beta : K) (c : List K) (hb : 0 < beta) (hl : 2 < c.length) :
    let c' := postfilterMcp fx alpha beta c
    let b := mc2b alpha c
    let b' := pfSharpen alpha beta b
    c'.length = c.length ∧
    (∀ k, 2 ≤ k → k < c.length → c'.getD k 0 = (1 + beta) * c.getD k 0) ∧
    c'.getD 1 0 = c.getD 1 0 ∧
    c'.getD 0 0 = c.getD 0 0 + Transc.ln (b2en fx alpha b / b2en fx alpha b') / ((2 : Nat) : K)
                  - beta * alpha * alpha * b.getD 2 0 := by
  intro c' b b'
  have hblen : b.length = c.length := mc2b_length alpha c
  have hb'len : b'.length = c.length := (pfSharpen_length alpha beta b).trans hblen
  have h0 : b'.getD 0 0 = b.getD 0 0 := pfSharpen_getD alpha beta b 0
  have h1 : b'.getD 1 0 = b.getD 1 0 - beta * alpha * b.getD 2 0 := pfSharpen_getD alpha beta b 1
  have h2 : ∀ k, 2 ≤ k → b'.getD k 0 = b.getD k 0 * (1 + beta) := fun k hk =>
    (pfSharpen_getD alpha beta b k).trans (by rw [if_neg (by omega), if_pos hk])
  have hc' : c' = b2mc alpha (b'.set 0 (b'.getD 0 0 +
      Transc.ln (b2en fx alpha b / b2en fx alpha b') / ((2 : Nat) : K))) := postfilterMcp_pos fx alpha beta c hb hl
  generalize Transc.ln (b2en fx alpha b / b2en fx alpha b') / ((2 : Nat) : K) = Δ at hc' ⊢
  -- `c = b2mc b` and `c' = b2mc b''`, entry by entry
  have hc : ∀ k, k < c.length → c.getD k 0 = b.getD k 0 + alpha * b.getD (k + 1) 0 := fun k hk => by
    rw [← b2mc_getD alpha b k (by omega), b2mc_mc2b]
  have hget : ∀ k, k < c.length → c'.getD k 0 =
      (b'.set 0 (b'.getD 0 0 + Δ)).getD k 0 + alpha * b'.getD (k + 1) 0 := fun k hk => by
    rw [hc', b2mc_getD alpha _ k (by rw [List.length_set]; omega), getD_set_ne _ 0 (k + 1) _ _ (by omega)]
  refine ⟨by rw [hc', b2mc_length, List.length_set, hb'len], fun k hk2 hk => ?_, ?_, ?_⟩
  · rw [hget k hk, getD_set_ne _ 0 k _ _ (by omega), h2 k hk2, h2 (k + 1) (by omega), hc k hk]
    ring
  · rw [hget 1 (by omega), getD_set_ne _ 0 1 _ _ (by omega), h1, h2 2 le_rfl, hc 1 (by omega)]
    ring
  · rw [hget 0 (by omega), getD_set_self _ _ _ _ (by omega), h0, h1, hc 0 (by omega)]
    ring

end

end Jb
