/-
  The pulse generator of the excitation model over a linearly ordered field: `pulseStep`, `excStart` and
  `periodOfLf0` as equations; the gap between two pulses at a constant period; and the energy of one sample at a
  constant period `p ≥ 1` (impulses of height `sqrt p`): from a counter in `(0, p]` it is `1` minus what the counter
  gains, and the counter stays in `(0, p]` — summed over `n` samples this telescopes to `n + c₀ − c_n`
  (`Jb.C07.pulse_train_energy`).  `sqrt p · sqrt p = p` is the one law of `sqrt` used; it is a hypothesis.
-/
import Jb.Proofs.Field
import Mathlib.Tactic.Ring

namespace Jb

section
variable {K : Type} [Field K] [LinearOrder K]

theorem excStart_of_silent (e : ExcSt K) (p : K) (fp : Nat) (hsil : e.pitchOfCurr = 0) :
    excStart e p fp = { e with pitchInc := 0, pitchOfCurr := p, pitchCounter := p } := by
  unfold excStart
  rw [hsil, isZeroS_zero]
  rfl

theorem excStart_of_voiced (e : ExcSt K) (p : K) (fp : Nat) (h0 : e.pitchOfCurr ≠ 0) (hp : p ≠ 0) :
    excStart e p fp = { e with pitchInc := (p - e.pitchOfCurr) / (fp : K) } := by
  unfold excStart
  rw [isZeroS_of_ne h0, isZeroS_of_ne hp]
  rfl

variable [Transc K]

theorem pulseStep_eq (e : ExcSt K) :
    pulseStep e =
      if e.pitchOfCurr < e.pitchCounter + 1 then
        (Transc.sqrt e.pitchOfCurr, { e with pitchCounter := e.pitchCounter + 1 - e.pitchOfCurr })
      else (0, { e with pitchCounter := e.pitchCounter + 1 }) := rfl

theorem pulseStep_period (e : ExcSt K) : (pulseStep e).2.pitchOfCurr = e.pitchOfCurr := by
  rw [pulseStep_eq]; split_ifs <;> rfl

theorem pulseStep_value (e : ExcSt K) :
    (pulseStep e).1 = 0 ∨ (pulseStep e).1 = Transc.sqrt e.pitchOfCurr := by
  rw [pulseStep_eq]; split_ifs
  · exact Or.inr rfl
  · exact Or.inl rfl

theorem pulseStep_ring (e : ExcSt K) : (pulseStep e).2.ring = e.ring := by
  rw [pulseStep_eq]; split_ifs <;> rfl

/-- `n` samples of the pulse generator at the current (constant) period; returns the samples and the final state -/
def pulseRun : ExcSt K → Nat → List K × ExcSt K
  | e, 0 => ([], e)
  | e, n + 1 => let r := pulseStep e; let rest := pulseRun r.2 n; (r.1 :: rest.1, rest.2)

theorem pulseRun_succ (e : ExcSt K) (n : Nat) :
    pulseRun e (n + 1) = ((pulseStep e).1 :: (pulseRun (pulseStep e).2 n).1, (pulseRun (pulseStep e).2 n).2) := rfl

variable [Consts K]

theorem period_nodata (rate : Nat) : periodOfLf0 rate (Consts.nodata : K) = 0 := by
  unfold periodOfLf0
  rw [sub_self, isZeroS_zero]
  rfl

theorem period_voiced (rate : Nat) (lf0 : K) (h : lf0 ≠ Consts.nodata) :
    periodOfLf0 rate lf0 = (rate : K) / Transc.exp (clampS lf0 Consts.minLf0 Consts.maxLf0) := by
  unfold periodOfLf0
  rw [isZeroS_of_ne (sub_ne_zero.mpr h)]
  rfl

end

section
variable {K : Type} [Field K] [LinearOrder K] [IsStrictOrderedRing K] [Transc K]

/-- One sample: whether it fires or not, its energy is `1` minus what the counter gains, and the
    counter stays in `(0, p]`. Summed over a run this telescopes. -/
theorem pulseStep_energy (e : ExcSt K) (hp : 1 ≤ e.pitchOfCurr) (hc0 : 0 < e.pitchCounter)
    (hc : e.pitchCounter ≤ e.pitchOfCurr)
    (hsqrt : Transc.sqrt e.pitchOfCurr * Transc.sqrt e.pitchOfCurr = e.pitchOfCurr) :
    (pulseStep e).1 * (pulseStep e).1 = 1 + e.pitchCounter - (pulseStep e).2.pitchCounter ∧
    0 < (pulseStep e).2.pitchCounter ∧ (pulseStep e).2.pitchCounter ≤ e.pitchOfCurr := by
  rw [pulseStep_eq]
  split_ifs with h
  · exact ⟨hsqrt.trans (by ring), sub_pos.2 h, sub_le_iff_le_add.2 (add_le_add hc hp)⟩
  · exact ⟨(mul_zero _).trans (by ring), add_pos hc0 one_pos, not_lt.1 h⟩

end

section
variable {K : Type} [Field K] [LinearOrder K] [IsStrictOrderedRing K] [FloorRing K] [Transc K] [Consts K]

/-- the pulse counter after `j` samples without a pulse, from counter `c` -/
def counterAfter (c : K) (j : Nat) : K := c + (j : K)

set_option linter.unusedSectionVars false in
/-- **Pulse gap**, as arithmetic on the counter. With a constant period `p ≥ 1` and the counter `c` in `(0, 1]`
    (where every pulse and every start leaves it), `j = ⌊p − c⌋₊ + 1` is the first number of increments after which
    the test of `pulseStep`, `p < c + j`, holds: the first `j − 1` incremented counters do not exceed `p`, the `j`-th
    does; `j` is `⌊p⌋₊` or `⌊p⌋₊ + 1` (the latter being `⌈p⌉₊` when `p` is not an integer; `j = p` exactly when it
    is); and the counter left behind, `c + j − p`, is again in `(0, 1]`. `pulseStep` itself is not iterated here. -/
theorem pulse_gap (p c : K) (hp : 1 ≤ p) (hc0 : 0 < c) (hc1 : c ≤ 1) :
    let j := ⌊p - c⌋₊ + 1
    (∀ i, i < j → i ≥ 1 → ¬ p < c + (i : K)) ∧ p < c + (j : K) ∧
    (j = ⌊p⌋₊ ∨ j = ⌊p⌋₊ + 1) ∧ ((p = (⌊p⌋₊ : K)) → j = ⌊p⌋₊) ∧
    0 < c + (j : K) - p ∧ c + (j : K) - p ≤ 1 := by
  intro j
  have hx : 0 ≤ p - c := sub_nonneg.2 (hc1.trans hp)
  -- everything in `K` follows from `c + ⌊p − c⌋₊ ≤ p < c + ⌊p − c⌋₊ + 1`
  have hlo : c + ((⌊p - c⌋₊ : Nat) : K) ≤ p := le_sub_iff_add_le'.1 (Nat.floor_le hx)
  have hhi : p < c + (j : K) := by
    rw [Nat.cast_succ]; exact sub_lt_iff_lt_add'.1 (Nat.lt_floor_add_one (p - c))
  have hj : c + (j : K) - p ≤ 1 := by
    rw [Nat.cast_succ, ← add_assoc, sub_le_iff_le_add']; exact add_le_add hlo le_rfl
  have ha : ∀ i, i < j → ¬ p < c + (i : K) := fun i hi =>
    not_lt.2 ((add_le_add le_rfl (Nat.cast_le.mpr (Nat.lt_succ_iff.mp hi))).trans hlo)
  -- and the comparison with `⌊p⌋₊` from monotonicity of the floor: `⌊p − 1⌋₊ ≤ ⌊p − c⌋₊ ≤ ⌊p⌋₊`
  have hmono : ⌊p - c⌋₊ ≤ ⌊p⌋₊ := Nat.floor_mono (sub_le_self p hc0.le)
  have hlow : ⌊p⌋₊ - 1 ≤ ⌊p - c⌋₊ := Nat.floor_sub_one p ▸ Nat.floor_mono (sub_le_sub_left hc1 p)
  have h1 : 1 ≤ ⌊p⌋₊ := Nat.le_floor (by exact_mod_cast hp)
  refine ⟨fun i hi _ => ha i hi, hhi, by omega, fun hpn => ?_, sub_pos.2 hhi, hj⟩
  have : ⌊p - c⌋₊ < ⌊p⌋₊ := (Nat.floor_lt hx).mpr (hpn ▸ sub_lt_self p hc0)
  omega

set_option linter.unusedSectionVars false in
/-- Linear glide: with both periods non-zero, `excStart` sets the per-sample increment to
    `(p_new − p_old)/fperiod`, so `fperiod` increments add up to exactly the difference (`excGet` adds one per voiced
    sample; that iteration is not part of the statement). -/
theorem glide_linear (e : ExcSt K) (p : K) (fp : Nat) (hfp : 0 < fp)
    (h0 : e.pitchOfCurr ≠ 0) (hp : p ≠ 0) :
    (excStart e p fp).pitchInc = (p - e.pitchOfCurr) / (fp : K) ∧
    (excStart e p fp).pitchOfCurr = e.pitchOfCurr ∧
    e.pitchOfCurr + (fp : K) * (excStart e p fp).pitchInc = p := by
  have hfpK : (fp : K) ≠ 0 := Nat.cast_ne_zero.mpr hfp.ne'
  rw [excStart_of_voiced e p fp h0 hp]
  refine ⟨rfl, rfl, ?_⟩
  show e.pitchOfCurr + (fp : K) * ((p - e.pitchOfCurr) / (fp : K)) = p
  rw [mul_div_cancel₀ _ hfpK, add_sub_cancel]

end

end Jb
