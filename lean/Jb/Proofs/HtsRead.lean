/-
  The guarded reader (`parseVoice true`) parser by parser.  First what the text-level functions of
  `Jb/Model/HtsParse.lean` return, as far as sizes and PDF layout go; then for each parser one statement
  `Sat P (parser …)` — it does not panic, and what it returns satisfies `P`.  The one for `parseVoice`,
  `sat_parseVoice`, carries C18 and the shape of an accepted voice.  For C18: no panic, and the numbers of streams,
  questions, trees, tree rows, PDF words, windows and window coefficients are bounded by the number of bytes of the file.
  The number of PDFs is not: with PDF length 0 a count word yields that many empty PDFs.
-/
import Jb.Proofs.Hts
import Mathlib.Algebra.Order.BigOperators.Group.List

namespace Jb.Hts
open Outcome

/-! ### splitting at separator bytes (`splitOn`, `tokens`) -/

/-- the fold inside `splitOn` and, up to dropping empty pieces, inside `tokens`: split at the bytes with `p`; the piece
    being read, and the finished ones -/
def splitAcc (p : Nat → Prop) [DecidablePred p] (b : List Nat) : List Nat × List (List Nat) :=
  b.foldr (fun c (acc : List Nat × List (List Nat)) =>
    if p c then ([], acc.1 :: acc.2) else (c :: acc.1, acc.2)) ([], [])

def splitBy (p : Nat → Prop) [DecidablePred p] (b : List Nat) : List (List Nat) :=
  (splitAcc p b).1 :: (splitAcc p b).2

theorem splitOn_eq (sep : Nat) (b : List Nat) : splitOn sep b = splitBy (· = sep) b := rfl

theorem splitAcc_cons (p : Nat → Prop) [DecidablePred p] (c : Nat) (b : List Nat) : splitAcc p (c :: b) =
    if p c then ([], (splitAcc p b).1 :: (splitAcc p b).2) else (c :: (splitAcc p b).1, (splitAcc p b).2) := rfl

theorem tokens_eq (b : List Nat) : tokens b = (splitBy (isSpace · = true) b).filter (!·.isEmpty) := by
  -- `tokens` drops an empty piece as soon as it is finished, the filter afterwards
  have h : ∀ b : List Nat, (b.foldr (fun c (acc : List Nat × List (List Nat)) =>
      if isSpace c then (if acc.1.isEmpty then acc else ([], acc.1 :: acc.2)) else (c :: acc.1, acc.2)) ([], [])) =
      ((splitAcc (isSpace · = true) b).1, (splitAcc (isSpace · = true) b).2.filter (!·.isEmpty)) := by
    intro b
    induction b with
    | nil => rfl
    | cons c b ih =>
      rw [List.foldr_cons, ih, splitAcc_cons]
      by_cases hc : isSpace c = true
      · rw [if_pos hc, if_pos hc]
        cases (splitAcc (isSpace · = true) b).1 <;> rfl
      · rw [if_neg hc, if_neg hc]
  rw [tokens, h, splitBy]
  cases (splitAcc (isSpace · = true) b).1 <;> rfl

/-- the pieces and the separators between them are the input -/
theorem splitBy_size (p : Nat → Prop) [DecidablePred p] (b : List Nat) :
    ((splitBy p b).map List.length).sum + (splitBy p b).length = b.length + 1 := by
  induction b with
  | nil => rfl
  | cons c b ih =>
    simp only [splitBy, List.map_cons, List.sum_cons, List.length_cons] at ih ⊢
    rw [splitAcc_cons]
    split
    · simp only [List.length_nil, List.map_cons, List.sum_cons, List.length_cons]; omega
    · simp only [List.length_cons]; omega

theorem length_filter_nonempty_le (l : List (List Nat)) : (l.filter (!·.isEmpty)).length ≤ (l.map List.length).sum := by
  induction l with
  | nil => exact Nat.le_refl _
  | cons a l ih =>
    rw [List.map_cons, List.sum_cons]
    cases a with
    | nil => exact Nat.le_add_left_of_le ih
    | cons c a => rw [List.filter_cons_of_pos rfl, List.length_cons, List.length_cons]; omega

theorem splitOn_length (sep : Nat) (b : List Nat) : (splitOn sep b).length ≤ b.length + 1 := by
  have := splitBy_size (· = sep) b
  rw [splitOn_eq]; omega

theorem splitOn_mem (sep : Nat) (b : List Nat) (x : List Nat) (hx : x ∈ splitOn sep b) : x.length ≤ b.length := by
  have h1 := splitBy_size (· = sep) b
  have h2 : x.length ≤ ((splitOn sep b).map List.length).sum := List.le_sum_of_mem (List.mem_map_of_mem hx)
  have h3 : 0 < (splitOn sep b).length := List.length_pos_of_mem hx
  rw [splitOn_eq] at h2 h3; omega

theorem tokens_length (b : List Nat) : (tokens b).length ≤ b.length := by
  have h1 := splitBy_size (isSpace · = true) b
  have h2 := length_filter_nonempty_le (splitBy (isSpace · = true) b)
  have h3 : 0 < (splitBy (isSpace · = true) b).length := Nat.succ_pos _
  rw [tokens_eq]; omega

theorem splitAcc_append (p : Nat → Prop) [DecidablePred p] (w rest : List Nat) (hw : ∀ x ∈ w, ¬ p x) :
    splitAcc p (w ++ rest) = (w ++ (splitAcc p rest).1, (splitAcc p rest).2) := by
  induction w with
  | nil => rfl
  | cons c w ih =>
    rw [List.cons_append, splitAcc_cons, if_neg (hw c (by simp)), ih fun x hx => hw x (by simp [hx])]
    rfl

theorem splitBy_join (p : Nat → Prop) [DecidablePred p] (s : Nat) (hs : p s) (w : List Nat) (ws : List (List Nat))
    (hw : ∀ x ∈ w, ¬ p x) (hws : ∀ v ∈ ws, ∀ x ∈ v, ¬ p x) :
    splitBy p (w ++ ws.flatMap fun v => s :: v) = w :: ws := by
  suffices h : ∀ w, (∀ x ∈ w, ¬ p x) → splitAcc p (w ++ ws.flatMap fun v => s :: v) = (w, ws) by
    rw [splitBy, h w hw]
  induction ws with
  | nil => intro w hw; rw [splitAcc_append p w _ hw]; simp [splitAcc]
  | cons v ws ih =>
    intro w hw
    rw [List.flatMap_cons, List.cons_append, splitAcc_append p w _ hw, splitAcc_cons, if_pos hs,
      ih (fun u hu => hws u (by simp [hu])) v (hws v (by simp))]
    simp

/-! ### `Sat` through `bindR` and `sequenceR` -/

variable {α β : Type}

theorem _root_.Jb.Outcome.Sat.bindR {P : α → Prop} {Q : β → Prop} {x : Res α} {f : α → Res β}
    (hx : Sat P x) (hf : ∀ a, P a → Sat Q (f a)) : Sat Q (bindR x f) := hx.bind hf

theorem sat_sequenceR_map {Q : β → α → Prop} (l : List β) (f : β → Res α) (h : ∀ b ∈ l, Sat (Q b) (f b)) :
    Sat (List.Forall₂ Q l) (sequenceR (l.map f)) := by
  induction l with
  | nil => exact List.Forall₂.nil
  | cons b l ih =>
    refine Sat.bindR (h b (by simp)) fun a ha => ?_
    refine Sat.bindR (ih fun c hc => h c (by simp [hc])) fun as has => ?_
    exact List.Forall₂.cons ha has

theorem forall₂_exists_left {γ δ : Type} {R : γ → δ → Prop} {l : List γ} {o : List δ} (h : List.Forall₂ R l o) :
    ∀ a ∈ l, ∃ b ∈ o, R a b := by
  induction h with
  | nil => intro a ha; cases ha
  | cons hx _ ih =>
    intro a ha
    rcases List.mem_cons.1 ha with rfl | ha
    · exact ⟨_, by simp, hx⟩
    · obtain ⟨b, hb, hr⟩ := ih a ha
      exact ⟨b, by simp [hb], hr⟩

theorem forall₂_exists_right {γ δ : Type} {R : γ → δ → Prop} {l : List γ} {o : List δ} (h : List.Forall₂ R l o) :
    ∀ b ∈ o, ∃ a ∈ l, R a b := fun b hb => by
  obtain ⟨a, ha, hr⟩ := forall₂_exists_left h.flip b hb
  exact ⟨a, ha, hr⟩

abbrev NoPanic (x : Res α) : Prop := Sat (fun _ => True) x

theorem NoPanic.sat_eq_ok {x : Res α} (h : NoPanic x) : Sat (fun a => x = .ok a) x := by
  cases x with
  | ok a => exact rfl
  | err e => trivial
  | panic s => exact h

/-! ### header values -/

theorem noPanic_headerNat (strict : Bool) (b : List Nat) : NoPanic (headerNat true strict b) := by
  unfold headerNat
  split
  · trivial
  · trivial
  · split <;> trivial

theorem noPanic_headerBool (b : List Nat) : NoPanic (headerBool b) := by
  unfold headerBool; split <;> trivial

theorem noPanic_headerPair (b : List Nat) : NoPanic (headerPair true b) := by
  unfold headerPair
  split
  · next x y _ =>
    have hx := noPanic_headerNat false x
    have hy := noPanic_headerNat false y
    split
    · trivial
    · next s h => rw [h] at hx; exact hx
    · next s h _ => rw [h] at hy; exact hy
    · trivial
    · trivial
  · trivial

theorem noPanic_optPair (o : Option (List Nat)) : NoPanic (optPair true o) := by
  cases o with
  | none => trivial
  | some b => exact (noPanic_headerPair b).bindR fun _ _ => trivial

theorem sat_checkedMul (a b : Nat) : Sat (fun c => c = a * b) (checkedMul true a b) := by
  unfold checkedMul
  split
  · rfl
  · trivial

/-! ### header sections -/

/-- the `+ 1` is the `:` dropped between key and value; it pays for the `+ 1` of `splitOn_length` where a value is split
    again (`STREAM_TYPE` in `sat_parseGlobal`, `STREAM_WIN` in `sat_parseVoice`) -/
theorem sat_headerLines (b : List Nat) :
    Sat (fun kvs => ∀ kv ∈ kvs, kv.2.length + 1 ≤ b.length) (headerLines b) := by
  have hl : ∀ l ∈ (splitOn 10 b).filter (!·.isEmpty), l.length ≤ b.length :=
    fun l hl => splitOn_mem 10 b l (List.mem_filter.1 hl).1
  unfold headerLines
  generalize List.filter _ _ = lines at hl
  induction lines with
  | nil => intro kv hkv; cases hkv
  | cons l ls ih =>
    rw [List.foldr_cons]
    have := ih fun l' hl' => hl l' (by simp [hl'])
    split
    · next kvs hk =>
      rw [hk] at this
      dsimp only
      split
      · trivial
      · intro kv hkv
        rcases List.mem_cons.1 hkv with rfl | hkv
        · have h1 := hl l (by simp)
          have h2 := (List.takeWhile_sublist (· ≠ 58) (l := l)).length_le
          simp only [List.length_drop]
          omega
        · exact this kv hkv
    · exact this.mono fun _ _ => by assumption

theorem mem_of_filter_eq_singleton {γ : Type} {p : γ → Bool} {l : List γ} {a : γ} (h : l.filter p = [a]) : a ∈ l :=
  (List.mem_filter.1 (h ▸ List.mem_singleton_self a)).1

theorem sat_lookup1 (kvs : List (List Nat × List Nat)) (key : String) :
    Sat (fun v => ∃ kv ∈ kvs, kv.2 = v) (lookup1 kvs key) := by
  unfold lookup1
  split
  · next kv hf => exact ⟨kv, mem_of_filter_eq_singleton hf, rfl⟩
  · trivial
  · trivial

theorem sat_lookupOpt (kvs : List (List Nat × List Nat)) (key : String) :
    Sat (fun o => ∀ v, o = some v → ∃ kv ∈ kvs, kv.2 = v) (lookupOpt kvs key) := by
  unfold lookupOpt
  split
  · next kv hf =>
    intro v hv
    refine ⟨kv, mem_of_filter_eq_singleton hf, ?_⟩
    split at hv
    · cases hv
    · exact Option.some.inj hv
  · intro v hv; cases hv
  · trivial

theorem lookupOpt_ok (kvs : List (List Nat × List Nat)) (key : String) (v : List Nat)
    (h : lookupOpt kvs key = .ok (some v)) : ∃ kv ∈ kvs, kv.2 = v :=
  (sat_iff.1 (sat_lookupOpt kvs key)).2 _ h v rfl

theorem groupIndexed_mem (kvs : List (List Nat × List Nat)) (sub : String) (kv : List Nat × List Nat)
    (h : kv ∈ groupIndexed kvs sub) : ∃ kv' ∈ kvs, kv'.2 = kv.2 := by
  unfold groupIndexed at h
  obtain ⟨⟨k, v⟩, hmem, hf⟩ := List.mem_filterMap.1 h
  refine ⟨(k, v), hmem, ?_⟩
  dsimp only at hf
  split at hf
  · split at hf
    · cases hf
    · split at hf
      · cases hf; rfl
      · cases hf
  · cases hf

theorem headerStrList_length (b : List Nat) : (headerStrList b).length ≤ b.length + 1 := by
  unfold headerStrList
  split
  · simp
  · rw [List.length_map]; exact splitOn_length 44 b

theorem noPanic_lookup1_bind (kvs : List (List Nat × List Nat)) (key : String) {f : List Nat → Res β}
    (hf : ∀ v, NoPanic (f v)) : NoPanic (bindR (lookup1 kvs key) f) :=
  (sat_lookup1 kvs key).bindR fun v _ => hf v

theorem sat_parseGlobal (b : List Nat) : Sat (fun g => g.streamType.length ≤ b.length) (parseGlobal true b) := by
  unfold parseGlobal
  refine (sat_headerLines b).bindR fun kvs hkvs => ?_
  refine (sat_lookup1 kvs _).bindR fun _ _ => ?_
  refine (noPanic_lookup1_bind kvs _ (noPanic_headerNat _)).bindR fun _ _ => ?_
  refine (noPanic_lookup1_bind kvs _ (noPanic_headerNat _)).bindR fun _ _ => ?_
  refine (noPanic_lookup1_bind kvs _ (noPanic_headerNat _)).bindR fun _ _ => ?_
  refine (noPanic_lookup1_bind kvs _ (noPanic_headerNat _)).bindR fun _ _ => ?_
  refine (sat_lookup1 kvs _).bindR fun st hst => ?_
  refine (sat_lookup1 kvs _).bindR fun _ _ => ?_
  refine (sat_lookup1 kvs _).bindR fun _ _ => ?_
  refine (sat_lookup1 kvs _).bindR fun _ _ => ?_
  refine (sat_lookup1 kvs _).bindR fun _ _ => ?_
  obtain ⟨kv, hkv, rfl⟩ := hst
  have h1 := hkvs kv hkv
  have h2 := headerStrList_length kv.2
  show ((headerStrList kv.2).map strOf).length ≤ b.length
  rw [List.length_map]
  omega

theorem noPanic_parseStreamGroup (g : List (List Nat × List Nat)) : NoPanic (parseStreamGroup true g) := by
  unfold parseStreamGroup
  refine (noPanic_lookup1_bind g _ (noPanic_headerNat _)).bindR fun _ _ => ?_
  refine (noPanic_lookup1_bind g _ (noPanic_headerNat _)).bindR fun _ _ => ?_
  refine (noPanic_lookup1_bind g _ noPanic_headerBool).bindR fun _ _ => ?_
  refine (noPanic_lookup1_bind g _ noPanic_headerBool).bindR fun _ _ => ?_
  exact (sat_lookup1 g _).bindR fun _ _ => trivial

/-- there are no more window ranges than the `STREAM_WIN` value has bytes -/
theorem sat_parsePosGroup (g : List (List Nat × List Nat)) :
    Sat (fun pos => ∃ kv ∈ g, pos.win.length ≤ kv.2.length + 1) (parsePosGroup true g) := by
  unfold parsePosGroup
  refine (sat_lookup1 g _).bindR fun w hw => ?_
  refine (sat_sequenceR_map (Q := fun _ _ => True) _ _ fun _ _ => noPanic_headerPair _).bindR fun win hwin => ?_
  refine (noPanic_lookup1_bind g _ noPanic_headerPair).bindR fun _ _ => ?_
  refine (noPanic_lookup1_bind g _ noPanic_headerPair).bindR fun _ _ => ?_
  refine ((sat_lookupOpt g _).bindR fun _ _ => noPanic_optPair _).bindR fun _ _ => ?_
  refine ((sat_lookupOpt g _).bindR fun _ _ => noPanic_optPair _).bindR fun _ _ => ?_
  obtain ⟨kv, hkv, rfl⟩ := hw
  refine ⟨kv, hkv, ?_⟩
  show win.length ≤ _
  rw [← hwin.length_eq]
  split
  · exact Nat.zero_le _
  · exact splitOn_length 44 kv.2

/-! ### sections and slices -/

theorem sat_splitSections (b : List Nat) :
    Sat (fun x => x.1.length ≤ b.length ∧ x.2.1.length ≤ b.length ∧ x.2.2.1.length ≤ b.length ∧
      x.2.2.2.length ≤ b.length) (splitSections b) := by
  unfold splitSections
  extract_lets skipNl sect
  have hskip : ∀ b : List Nat, (skipNl b).length ≤ b.length := fun b => (List.dropWhile_sublist _).length_le
  -- one `[TAG]` section: both parts are no longer than what it was cut from
  have hsect : ∀ tag needNl (b : List Nat),
      Sat (fun x => x.1.length ≤ b.length ∧ x.2.length ≤ b.length) (sect tag needNl b) := by
    intro tag needNl b
    have := hskip b
    refine Sat.ite (fun _ => trivial) fun _ => Sat.ite (fun _ => trivial) fun _ => ?_
    dsimp only
    split
    · trivial
    · show (List.take _ _).length ≤ _ ∧ (List.drop _ _).length ≤ _
      simp only [List.length_take, List.length_drop]
      omega
  refine (hsect _ _ b).bindR fun ⟨g, r1⟩ h1 => ?_
  refine (hsect _ _ r1).bindR fun ⟨s, r2⟩ h2 => ?_
  refine (hsect _ _ r2).bindR fun ⟨p, r3⟩ h3 => ?_
  have hd := hskip r3
  refine Sat.ite (fun _ => trivial) fun _ => Sat.ite (fun _ => ?_) fun _ => trivial
  show g.length ≤ _ ∧ s.length ≤ _ ∧ p.length ≤ _ ∧ (List.drop _ _).length ≤ _
  rw [List.length_drop]
  exact ⟨h1.1, le_trans h2.1 h1.2, le_trans h3.1 (le_trans h2.2 h1.2),
    le_trans (Nat.sub_le _ _) (le_trans hd (le_trans h3.2 (le_trans h2.2 h1.2)))⟩

theorem sat_sliceIncl (site : String) (d : List Nat) (r : Nat × Nat) :
    Sat (fun x => x.length ≤ d.length) (sliceIncl true site d r) := by
  unfold sliceIncl
  split
  · show ((d.drop r.1).take (r.2 + 1 - r.1)).length ≤ d.length
    simp only [List.length_take, List.length_drop]; omega
  · trivial

/-! ### PDF blocks -/

/-- number of 32-bit words one PDF holds: means, variances and the optional MSD weight -/
def PdfBits.words (p : PdfBits) : Nat :=
  p.means.length + p.varis.length + (if p.msd.isSome then 1 else 0)

theorem words_length (b : List Nat) (ws : List UInt32) (h : words b = some ws) : 4 * ws.length = b.length := by
  fun_induction words b generalizing ws with
  | case1 => cases h; rfl
  | case2 a b c d rest ih =>
    obtain ⟨ws', hw, rfl⟩ := Option.map_eq_some_iff.1 h
    have := ih ws' hw
    simp only [List.length_cons]
    omega
  | case3 => cases h

theorem fromLinear_words (lin : List UInt32) : (fromLinear lin).words ≤ lin.length := by
  rw [PdfBits.words, fromLinear_means_length, fromLinear_varis_length, fromLinear_msd_isSome]
  split
  · next h => have := of_decide_eq_true h; omega
  · omega

theorem fromLinear_shape (lin : List UInt32) (n : Nat) (msd : Bool)
    (h : lin.length = 2 * n + (if msd then 1 else 0)) :
    (fromLinear lin).means.length = n ∧ (fromLinear lin).varis.length = n ∧
      ((fromLinear lin).msd.isSome = msd) := by
  rw [fromLinear_means_length, fromLinear_varis_length, fromLinear_msd_isSome]
  cases msd
  · have h : lin.length = 2 * n + 0 := h
    have hn : lin.length / 2 = n := by omega
    exact ⟨hn, hn, decide_eq_false (by omega)⟩
  · have h : lin.length = 2 * n + 1 := h
    have hn : lin.length / 2 = n := by omega
    exact ⟨hn, hn, decide_eq_true (by omega)⟩

/-- number of 32-bit words of the PDF lists of a model -/
def pdfWords (pdfs : List (List PdfBits)) : Nat := (pdfs.map fun ps => (ps.map PdfBits.words).sum).sum

/-- number of 32-bit words held by the PDFs of a model -/
def FileModel.words (m : FileModel) : Nat :=
  (m.pdfs.map fun ps => (ps.map PdfBits.words).sum).sum

theorem FileModel.words_eq (m : FileModel) : m.words = pdfWords m.pdfs := rfl

def PdfsFrom (pdfs : List (List PdfBits)) (pdfLen : Nat) : Prop :=
  ∀ ps ∈ pdfs, ∀ p ∈ ps, ∃ lin : List UInt32, lin.length = pdfLen ∧ p = fromLinear lin

theorem PdfsFrom.words_le {pdfs : List (List PdfBits)} {pdfLen : Nat} (h : PdfsFrom pdfs pdfLen) :
    pdfWords pdfs ≤ (pdfs.map List.length).sum * pdfLen := by
  induction pdfs with
  | nil => exact Nat.zero_le _
  | cons ps pdfs ih =>
    have h1 : (ps.map PdfBits.words).sum ≤ ps.length * pdfLen := by
      have := List.sum_le_card_nsmul (ps.map PdfBits.words) pdfLen fun x hx => by
        obtain ⟨p, hp, rfl⟩ := List.mem_map.1 hx
        obtain ⟨lin, hl, rfl⟩ := h ps (by simp) p hp
        exact hl ▸ fromLinear_words lin
      rwa [List.length_map] at this
    have h2 := ih fun qs hq => h qs (by simp [hq])
    simp only [pdfWords, List.map_cons, List.sum_cons, Nat.add_mul] at h2 ⊢
    omega

theorem pdfGo_spec (pdfLen : Nat) (counts : List Nat) (body : List UInt32) (out : List (List PdfBits))
    (h : parsePdfBlock.go pdfLen counts body = some out) :
    out.map List.length = counts ∧ PdfsFrom out pdfLen ∧ body.length = counts.sum * pdfLen := by
  induction counts generalizing body out with
  | nil =>
    rw [parsePdfBlock.go] at h
    split at h
    · next he =>
      cases h
      exact ⟨rfl, fun ps hps => (by cases hps), by simpa using he⟩
    · cases h
  | cons n rest ih =>
    rw [parsePdfBlock.go] at h
    split at h
    · cases h
    · next hlen =>
      obtain ⟨out', ho, rfl⟩ := Option.map_eq_some_iff.1 h
      obtain ⟨h1, h2, h3⟩ := ih _ _ ho
      rw [List.length_drop] at h3
      refine ⟨by simp [h1], ?_, by rw [List.sum_cons, Nat.add_mul]; omega⟩
      intro ps hps p hp
      rcases List.mem_cons.1 hps with rfl | hps
      · obtain ⟨i, hi, rfl⟩ := List.mem_map.1 hp
        have hi : i < n := List.mem_range.1 hi
        refine ⟨_, ?_, rfl⟩
        have hmul : i * pdfLen + pdfLen ≤ n * pdfLen := by
          rw [← Nat.succ_mul]; exact Nat.mul_le_mul_right pdfLen hi
        simp only [List.length_take, List.length_drop]
        omega
      · exact h2 ps hps p hp

theorem parsePdfBlock_spec (pb : List Nat) (ntree pdfLen : Nat) (pdfs : List (List PdfBits))
    (h : parsePdfBlock pb ntree pdfLen = some pdfs) :
    pdfs.length = ntree ∧ PdfsFrom pdfs pdfLen ∧ 4 * pdfWords pdfs ≤ pb.length := by
  unfold parsePdfBlock at h
  split at h
  · cases h
  · next ws hw =>
    have hw := words_length _ _ hw
    split at h
    · cases h
    · obtain ⟨h1, h2, h3⟩ := pdfGo_spec _ _ _ _ h
      have h4 := h2.words_le
      rw [h1, ← h3, List.length_drop] at h4
      refine ⟨?_, h2, by omega⟩
      rw [← List.length_map (as := pdfs) List.length, h1, List.length_map, List.length_take]
      omega

/-! ### tree text -/

/-- what the tree text of a model holds: questions, trees and tree rows (`tsize_eq`) -/
def tsize (qs : Questions) (trees : List FileTree) : Nat :=
  qs.length + trees.length + (trees.map fun t => t.rows.length).sum

def FileModel.rowCount (m : FileModel) : Nat := (m.trees.map fun t => t.rows.length).sum

theorem tsize_eq (m : FileModel) : tsize m.questions m.trees = m.questions.length + m.trees.length + m.rowCount := rfl

theorem tsize_reverse (qs : Questions) (trees : List FileTree) : tsize qs.reverse trees.reverse = tsize qs trees := by
  simp [tsize, List.sum_reverse]

theorem tsize_cons_le (qs : Questions) (trees : List FileTree) (st n : Nat) (f : Nat → Option Row) :
    tsize qs ({ state := st, rows := ((List.range n).map f).filterMap id } :: trees) ≤ tsize qs trees + 1 + n := by
  have : (((List.range n).map f).filterMap id).length ≤ ((List.range n).map f).length := List.length_filterMap_le _ _
  simp only [List.length_map, List.length_range] at this
  simp only [tsize, List.length_cons, List.map_cons, List.sum_cons]
  omega

theorem treeGo_size (fuel : Nat) (ts : List (List Nat)) (qs : Questions) (trees : List FileTree)
    (Q : Questions) (T : List FileTree) (h : parseTreeText.go fuel ts qs trees = some (Q, T)) :
    tsize Q T ≤ ts.length + tsize qs trees := by
  -- the four cases named are the ones that return a value: end of input, a `QS` line, a tree with rows, a one-leaf tree
  fun_induction parseTreeText.go fuel ts qs trees
  case case2 => cases h; rw [tsize_reverse]; exact Nat.le_add_left _ _
  case case6 rest2 _ pats after _ _ _ _ ih =>
    have := ih h
    simp only [tsize, List.length_cons, after, List.length_drop] at this ⊢
    omega
  case case13 rest2 _ body _ after _ rows _ ih =>
    refine le_trans (ih h) (le_trans (Nat.add_le_add_left (tsize_cons_le _ _ _ _ _) _) ?_)
    have : body.length ≤ rest2.length := (List.takeWhile_sublist _).length_le
    simp only [List.length_cons, after, List.length_drop]
    omega
  case case15 ih =>
    have := ih h
    simp only [tsize, List.length_cons, List.map_cons, List.sum_cons, List.length_nil] at this ⊢
    omega
  all_goals cases h

theorem parseTreeText_tsize_le (b : List Nat) (qs : Questions) (trees : List FileTree)
    (h : parseTreeText b = some (qs, trees)) : tsize qs trees ≤ b.length := by
  unfold parseTreeText at h
  dsimp only at h
  split at h
  · cases h
  · have := treeGo_size _ _ _ _ _ _ h
    have := tokens_length b
    simp only [tsize, List.length_nil, List.map_nil, List.sum_nil] at *
    omega

/-! ### models -/

theorem noPanic_convertRows (qs : Questions) (t : FileTree) : NoPanic (convertTree.convertRows qs .err t) := by
  have := sat_foldl_convertStep qs t.rows t.rows []
  rw [convertRows_eq]
  split
  · trivial
  · trivial
  · next h => rwa [h] at this

theorem noPanic_convertTree (qs : Questions) (t : FileTree) : NoPanic (convertTree true qs t) := by
  rw [convertTree_guarded]
  split
  · split
    · split <;> trivial
    · exact noPanic_convertRows qs t
  · exact noPanic_convertRows qs t

/-- what the reader guarantees about one accepted model read with PDF length `pdfLen` from at most `n` bytes -/
structure ModelSpec (n pdfLen : Nat) (m : FileModel) : Prop where
  pdfs_length : m.pdfs.length = m.trees.length
  pdfs : PdfsFrom m.pdfs pdfLen
  converts : ∀ t ∈ m.trees, ∃ r, convertTree true m.questions t = .ok r
  tsize_le : tsize m.questions m.trees ≤ n
  words_le : 4 * m.words ≤ n

theorem ModelSpec.sizes_le {n pdfLen : Nat} {m : FileModel} (h : ModelSpec n pdfLen m) :
    m.questions.length ≤ n ∧ m.trees.length ≤ n ∧ m.rowCount ≤ n ∧ 4 * m.words ≤ n := by
  have := h.tsize_le
  rw [tsize_eq] at this
  exact ⟨by omega, by omega, by omega, h.words_le⟩

theorem ModelSpec.shape {n pdfLen : Nat} {m : FileModel} (h : ModelSpec n pdfLen m)
    (k : Nat) (msd : Bool) (hlen : pdfLen = 2 * k + (if msd then 1 else 0)) :
    ∀ ps ∈ m.pdfs, ∀ p ∈ ps, p.means.length = k ∧ p.varis.length = k ∧ p.msd.isSome = msd := fun ps hps p hp => by
  obtain ⟨lin, hl, rfl⟩ := h.pdfs ps hps p hp
  exact fromLinear_shape lin k msd (hl.trans hlen)

theorem ModelSpec.plain {n k : Nat} {m : FileModel} (h : ModelSpec n (k * 2) m) :
    ∀ ps ∈ m.pdfs, ∀ p ∈ ps, p.means.length = k ∧ p.varis.length = k ∧ p.msd = none := fun ps hps p hp =>
  have ⟨h1, h2, h3⟩ := h.shape k false (Nat.mul_comm k 2) ps hps p hp
  ⟨h1, h2, Option.not_isSome_iff_eq_none.1 (by simp [h3])⟩

theorem sat_parseModel (d : List Nat) (treeR pdfR : Nat × Nat) (pdfLen : Nat) {n : Nat} (hn : d.length ≤ n) :
    Sat (ModelSpec n pdfLen) (parseModel true d treeR pdfR pdfLen) := by
  unfold parseModel
  refine (sat_sliceIncl _ d treeR).bindR fun tb htb => ?_
  split
  · trivial
  · next qs trees htt =>
    refine (sat_sliceIncl _ d pdfR).bindR fun pb hpb => ?_
    split
    · trivial
    · next pdfs hpdf =>
      refine (sat_sequenceR_map _ _ fun t _ => (noPanic_convertTree qs t).sat_eq_ok).bindR fun cs hcs => ?_
      obtain ⟨h1, h2, h3⟩ := parsePdfBlock_spec _ _ _ _ hpdf
      exact ⟨h1, h2, fun t ht => (forall₂_exists_left hcs t ht).imp fun _ h => h.2,
        le_trans (parseTreeText_tsize_le _ _ _ htt) (le_trans htb hn),
        (FileModel.words_eq _).symm ▸ le_trans h3 (le_trans hpb hn)⟩

theorem parseWindow_length_le (b : List Nat) (w : List String) (h : parseWindow b = some w) : w.length ≤ b.length := by
  unfold parseWindow at h
  have ht := tokens_length b
  split at h
  · cases h
  · split at h
    · next n cs htok =>
      rw [htok] at ht
      split at h
      · split at h
        · cases h
          simp only [List.length_map, List.length_cons] at *
          omega
        · cases h
      · cases h
    · cases h

/-! ### streams and the voice -/

/-- what `parseVoice true` guarantees about one stream read from a file of at most `n` bytes -/
structure StreamSpec (n : Nat) (s : ParsedStream) : Prop where
  model : ModelSpec n (s.info.veclen * s.info.nwin * 2 + (if s.info.isMsd then 1 else 0)) s.model
  gv : ∀ g, s.gv = some g → ModelSpec n (s.info.veclen * 2) g
  gv_isSome : s.gv.isSome = s.info.useGv
  windows_length : s.windows.length ≤ n
  windows : ∀ w ∈ s.windows, w.length ≤ n

/-- what `parseVoice true bytes` guarantees about the voice it returns -/
structure VoiceSpec (bytes : List Nat) (v : ParsedVoice) : Prop where
  ne : v.global.streamType ≠ []
  /-- the pinned commit took `NUM_STREAMS` from the header without comparing it with `STREAM_TYPE`, and
      `NUM_STREAMS:4000000000` made `Condition::load_model` allocate 32 GB -/
  nstreams : v.global.nstreams = v.global.streamType.length
  names : v.streams.map (·.name) = v.global.streamType
  streamType_le : v.global.streamType.length ≤ bytes.length
  duration : ModelSpec bytes.length (v.global.nstates * 2) v.duration
  streams : ∀ s ∈ v.streams, StreamSpec bytes.length s

/-- **the reader, in one statement**: no panic, and an accepted voice has the announced shape and the sizes `VoiceSpec`
    names are at most the number of bytes of the file -/
theorem sat_parseVoice (bytes : List Nat) : Sat (VoiceSpec bytes) (parseVoice true bytes) := by
  unfold parseVoice
  refine (sat_splitSections bytes).bindR fun ⟨gb, sb, pb, d⟩ ⟨hgb, _, hpb, hd⟩ => ?_
  refine Sat.ite (fun _ => trivial) fun _ => ?_
  refine (sat_parseGlobal gb).bindR fun g hg => ?_
  refine (sat_headerLines sb).bindR fun skv _ => ?_
  refine (sat_headerLines pb).bindR fun pkv hpkv => ?_
  refine (noPanic_lookup1_bind pkv _ noPanic_headerPair).bindR fun dpdf _ => ?_
  refine (noPanic_lookup1_bind pkv _ noPanic_headerPair).bindR fun dtree _ => ?_
  refine (sat_checkedMul _ _).bindR fun durLen hdl => ?_
  obtain rfl := hdl
  refine (sat_parseModel d dtree dpdf _ hd).bindR fun dur hdur => ?_
  refine Sat.ite (fun _ => trivial) fun hne => ?_
  refine Sat.ite (fun _ => trivial) fun hns => ?_
  refine (sat_sequenceR_map (Q := fun name s => s.name = name ∧ StreamSpec bytes.length s) _ _
    fun name _ => ?_).bindR fun streams hstreams => ?_
  · -- the stream `name`
    refine Sat.ite (fun _ => trivial) fun _ => Sat.ite (fun _ => trivial) fun _ => ?_
    refine (sat_parsePosGroup _).bindR fun pos hpos => ?_
    refine (noPanic_parseStreamGroup _).bindR fun sm _ => ?_
    refine (sat_checkedMul _ _).bindR fun vw hvw => ?_
    refine (sat_checkedMul _ _).bindR fun vw2 hvw2 => ?_
    obtain rfl := hvw
    obtain rfl := hvw2
    refine (sat_parseModel d _ _ _ hd).bindR fun model hmodel => ?_
    -- its GV model: there iff `USE_GV`
    refine Sat.bindR (P := fun gv => (∀ m, gv = some m → ModelSpec bytes.length (sm.veclen * 2) m) ∧
      gv.isSome = sm.useGv) ?_ fun gv hgv => ?_
    · split
      · next hu =>
        split
        · refine (sat_checkedMul _ _).bindR fun gl hgl => ?_
          obtain rfl := hgl
          exact (sat_parseModel d _ _ _ hd).bindR fun m hm => ⟨fun g hg => Option.some.inj hg ▸ hm, hu.symm⟩
        · trivial
      · next hu => exact And.intro (fun g hg => nomatch hg) (Bool.eq_false_iff.2 hu).symm
    -- its window rows
    refine (sat_sequenceR_map (Q := fun _ w => w.length ≤ bytes.length) _ _ fun r _ => ?_).bindR fun wins hwins => ?_
    · refine (sat_sliceIncl _ d r).bindR fun wb hwb => ?_
      split
      · next w hw => exact le_trans (parseWindow_length_le _ _ hw) (le_trans hwb hd)
      · trivial
    refine ⟨rfl, hmodel, hgv.1, hgv.2, ?_, fun w hw => (forall₂_exists_right hwins w hw).elim fun _ h => h.2⟩
    -- no more window ranges than the `STREAM_WIN` value has bytes
    obtain ⟨kv, hkv, hle⟩ := hpos
    obtain ⟨kv', hkv', he⟩ := groupIndexed_mem _ _ _ hkv
    have := le_trans (hpkv kv' hkv') hpb
    rw [he] at this
    show wins.length ≤ _
    rw [← hwins.length_eq]
    omega
  refine ⟨?_, not_not.1 hns, ?_, le_trans hg hgb, hdur, fun s hs => ?_⟩
  · intro h0; rw [h0] at hne; exact hne rfl
  · have := hstreams.imp fun _ _ h => h.1.symm
    rwa [← List.forall₂_map_right_iff, List.forall₂_eq_eq_eq, eq_comm] at this
  · obtain ⟨_, _, h⟩ := forall₂_exists_right hstreams s hs
    exact h.2

theorem parseVoice_spec {bytes : List Nat} {v : ParsedVoice} (h : parseVoice true bytes = .ok v) : VoiceSpec bytes v :=
  (sat_iff.1 (sat_parseVoice bytes)).2 v h

end Jb.Hts
