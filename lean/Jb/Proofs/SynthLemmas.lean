/-
  The whole-library model `Jb/Model/Synth.lean` as "run an engine-level function on the stage inputs": `synthesize`, and
  the observation functions `params`, `durations`, `stream`, `generator` defined here (with the engine-level
  `engineGenerator`), are all `withInputs … k` for a continuation
  `k` of the first voice and `engineIn`. The stage inputs do not depend on the setter history, so every statement that
  compares two histories is a statement about `k` (`withInputs_congr`), and every statement under `engineIn … = .ok inp`
  is one about `k v0 inp` (`withInputs_of_ok`). Also here: what an `.ok` result of `engineIn` / `modelStream` /
  `modelsGv` looks like, which interpolation weights are read, and the condition `condOf v0 ops` a history leaves.
-/
import Jb.Model.Synth
import Jb.Proofs.Outcome
import Jb.Proofs.Sys
import Jb.Proofs.Field

namespace Jb
namespace Synth
open Hts Outcome

theorem sequenceOut_eq_ok_iff {β : Type} {l : List (Outcome Unit β)} {as : List β} :
    sequenceOut l = .ok as ↔ l = as.map .ok := by
  induction l generalizing as with
  | nil => cases as <;> simp [sequenceOut]
  | cons x xs ih =>
    cases as with
    | nil => simp [sequenceOut, bind_eq_ok_iff]
    | cons a as =>
      simp only [sequenceOut, bind_eq_ok_iff, ih, ok.injEq, List.cons.injEq, List.map_cons]
      constructor
      · rintro ⟨a', rfl, as', rfl, rfl, rfl⟩; exact ⟨rfl, rfl⟩
      · rintro ⟨rfl, rfl⟩; exact ⟨a, rfl, as, rfl, rfl, rfl⟩

theorem sequenceOut_range_eq_ok_iff {β : Type} {n : Nat} {f : Nat → Outcome Unit β} {as : List β} :
    sequenceOut ((List.range n).map f) = .ok as ↔
      as.length = n ∧ ∀ i a, as[i]? = some a ↔ i < n ∧ f i = .ok a := by
  rw [sequenceOut_eq_ok_iff]
  constructor
  · intro h
    have hl : as.length = n := by simpa using (congrArg List.length h).symm
    refine ⟨hl, fun i a => ?_⟩
    have hi := congrArg (·[i]?) h
    simp only [List.getElem?_map] at hi
    by_cases hin : i < n
    · rw [List.getElem?_range hin] at hi
      cases has : as[i]? with
      | none => simp [has] at hi
      | some a' =>
        simp [has] at hi
        simp [hin, hi, eq_comm]
    · simp [hin, List.getElem?_eq_none (by omega : as.length ≤ i)]
  · rintro ⟨rfl, h⟩
    refine List.ext_getElem?_iff.2 fun i => ?_
    simp only [List.getElem?_map]
    by_cases hin : i < as.length
    · rw [List.getElem?_range hin, List.getElem?_eq_getElem hin]
      exact congrArg some ((h i _).1 (List.getElem?_eq_getElem hin)).2
    · simp [Nat.le_of_not_lt hin]

theorem sequenceOut_ok {β : Type} {l : List (Outcome Unit β)} {P : β → Prop}
    (h : ∀ x ∈ l, ∃ a, x = .ok a ∧ P a) :
    ∃ as, sequenceOut l = .ok as ∧ as.length = l.length ∧ ∀ a ∈ as, P a := by
  induction l with
  | nil => exact ⟨[], rfl, rfl, by simp⟩
  | cons x xs ih =>
    obtain ⟨a, rfl, hp⟩ := h x (by simp)
    obtain ⟨as, has, hl, hall⟩ := ih fun y hy => h y (by simp [hy])
    exact ⟨a :: as, by simp [sequenceOut, has], by simp [hl], by simpa [hp] using hall⟩

theorem sequenceO_some {β : Type} (l : List (Option β)) (h : ∀ o ∈ l, o.isSome = true) :
    ∃ ps, sequenceO l = some ps := by
  induction l with
  | nil => exact ⟨[], rfl⟩
  | cons o os ih =>
    obtain ⟨ps, hps⟩ := ih fun o' ho' => h o' (by simp [ho'])
    obtain ⟨x, rfl⟩ := Option.isSome_iff_exists.1 (h o (by simp))
    exact ⟨x :: ps, by simp [sequenceO, hps]⟩

set_option linter.unusedSectionVars false

variable {K : Type} [Field K] [LinearOrder K] [IsStrictOrderedRing K] [FloorRing K]
  [Transc K] [Consts K] [MlpgConsts K] [FromFile K]

/-- the condition `Engine::load` + the setter history produce, in the model: a call the real setter would reject with a panic
    (`set_msd_threshold` / `set_gv_weight` with a stream index out of range, engine.rs:160) is skipped by `applyHistory` -/
def condOf (v0 : ParsedVoice) (ops : List (CondOp K)) : Condition K :=
  applyHistory (Condition.default.loadModel v0.global.sr v0.global.fp v0.global.nstreams
    (headerOptions (α := K) v0).1 (headerOptions (α := K) v0).2.1 (headerOptions (α := K) v0).2.2) ops

theorem condOf_lengths (v0 : ParsedVoice) (ops : List (CondOp K)) :
    (condOf (K := K) v0 ops).msdThreshold.length = v0.global.nstreams ∧
      (condOf (K := K) v0 ops).gvWeight.length = v0.global.nstreams := by
  unfold condOf
  rw [applyHistory_msdThreshold_length, applyHistory_gvWeight_length]
  simp [Condition.loadModel]

/-- with `stepC_vol`, `stepC_msd`, … this says what the last setter of a history does -/
theorem condOf_snoc (v0 : ParsedVoice) (ops : List (CondOp K)) (op : CondOp K) :
    condOf (K := K) v0 (ops ++ [op]) = stepC (condOf v0 ops) op :=
  applyHistory_snoc _ ops op

theorem condOf_snoc_align (v0 : ParsedVoice) (ops : List (CondOp K)) (b : Bool) :
    condOf (K := K) v0 (ops ++ [.align b]) = (condOf v0 ops).setAlignment b :=
  condOf_snoc v0 ops _

def SpeedOnly (f : Condition K → Bool) : Prop := ∀ c c' : Condition K, c.speed = c'.speed → f c = f c'

/-- `Engine::load` + setter history + `Engine::generator` up to the construction of the `SpeechGenerator` -/
def params (big : K) (voices : List ParsedVoice) (iw : IW K) (ops : List (CondOp K)) (f : Condition K → Bool)
    (labels : List (List Char)) (times : List (K × K)) : Outcome Unit (GenParams K) :=
  match voices with
  | [] => .panic "voice_set.rs:first"
  | v0 :: _ => (engineIn big voices iw labels times).bind fun inp =>
      engineParams (condOf v0 ops) (f (condOf v0 ops)) inp

/-- the state durations `Engine::generator` chooses -/
def durations (big : K) (voices : List ParsedVoice) (iw : IW K) (ops : List (CondOp K)) (f : Condition K → Bool)
    (labels : List (List Char)) (times : List (K × K)) : Outcome Unit (List Nat) :=
  match voices with
  | [] => .panic "voice_set.rs:first"
  | v0 :: _ => (engineIn big voices iw labels times).bind fun inp =>
      engineDurations (condOf v0 ops) (f (condOf v0 ops)) inp

/-- the trajectory of stream `j` for given state durations -/
def stream (big : K) (voices : List ParsedVoice) (iw : IW K) (ops : List (CondOp K))
    (labels : List (List Char)) (times : List (K × K)) (durs : List Nat) (j : Nat) : Outcome Unit (List (List K)) :=
  match voices with
  | [] => .panic "voice_set.rs:first"
  | v0 :: _ => (engineIn big voices iw labels times).bind fun inp => engineStream (condOf v0 ops) inp durs j

/-- `Engine::generator`: the `SpeechGenerator` over the vocoder, from the stage inputs -/
def engineGenerator (c : Condition K) (b : Bool) (inp : EngineIn K) :
    Outcome Unit (Gen (VocoderSt K) (List K × List K × List K)) :=
  match engineParams c b inp with
  | .ok p =>
    if !speechGeneratorNewOk p then .panic "speech.rs:SpeechGenerator::new"
    else
      let nmcp := (inp.streams[0]?.map (·.vectorLength)).getD 0
      let nlpf := if inp.nstream > 2 then (inp.streams[2]?.map (·.vectorLength)).getD 0 else 0
      .ok { fperiod := c.fperiod, frames := p.spectrum.zip (p.lf0.zip p.lpf), next := 0,
            voc := VocoderSt.new nmcp nlpf c.stage c.useLogGain c.samplingFrequency c.alpha c.beta c.volume c.fperiod }
  | .err e => .err e
  | .panic s => .panic s

/-- the generator the library builds for (voices, weights, history, labels) -/
def generator (big : K) (voices : List ParsedVoice) (iw : IW K) (ops : List (CondOp K)) (f : Condition K → Bool)
    (labels : List (List Char)) (times : List (K × K)) :
    Outcome Unit (Gen (VocoderSt K) (List K × List K × List K)) :=
  match voices with
  | [] => .panic "voice_set.rs:first"
  | v0 :: _ => (engineIn big voices iw labels times).bind fun inp =>
      engineGenerator (condOf v0 ops) (f (condOf v0 ops)) inp

def withInputs {β : Type} (big : K) (voices : List ParsedVoice) (iw : IW K) (labels : List (List Char))
    (times : List (K × K)) (k : ParsedVoice → EngineIn K → Outcome Unit β) : Outcome Unit β :=
  match voices with
  | [] => .panic "voice_set.rs:first"
  | v0 :: _ => (engineIn big voices iw labels times).bind (k v0)

section withInputs
variable {β γ : Type} {big : K} {voices : List ParsedVoice} {iw : IW K} {labels : List (List Char)}
  {times : List (K × K)} {k k' : ParsedVoice → EngineIn K → Outcome Unit β} {v0 : ParsedVoice} {inp : EngineIn K}

theorem synthesize_eq (fx : Fix) (ops : List (CondOp K)) (f : Condition K → Bool) :
    synthesize fx big voices iw ops f labels times =
      withInputs big voices iw labels times fun v0 => engineSynthesize fx (condOf v0 ops) (f (condOf v0 ops)) := by
  cases voices <;> rfl

theorem params_eq (ops : List (CondOp K)) (f : Condition K → Bool) :
    params big voices iw ops f labels times =
      withInputs big voices iw labels times fun v0 => engineParams (condOf v0 ops) (f (condOf v0 ops)) := by
  cases voices <;> rfl

theorem durations_eq (ops : List (CondOp K)) (f : Condition K → Bool) :
    durations big voices iw ops f labels times =
      withInputs big voices iw labels times fun v0 => engineDurations (condOf v0 ops) (f (condOf v0 ops)) := by
  cases voices <;> rfl

theorem stream_eq (ops : List (CondOp K)) (durs : List Nat) (j : Nat) :
    stream big voices iw ops labels times durs j =
      withInputs big voices iw labels times fun v0 inp => engineStream (condOf v0 ops) inp durs j := by
  cases voices <;> rfl

theorem generator_eq (ops : List (CondOp K)) (f : Condition K → Bool) :
    generator big voices iw ops f labels times =
      withInputs big voices iw labels times fun v0 => engineGenerator (condOf v0 ops) (f (condOf v0 ops)) := by
  cases voices <;> rfl

theorem withInputs_congr
    (h : ∀ v0 inp, voices.head? = some v0 → engineIn big voices iw labels times = .ok inp → k v0 inp = k' v0 inp) :
    withInputs big voices iw labels times k = withInputs big voices iw labels times k' := by
  cases voices with
  | nil => rfl
  | cons v0 vs => exact bind_congr (h v0 · rfl)

theorem withInputs_of_ok (hv0 : voices.head? = some v0) (hin : engineIn big voices iw labels times = .ok inp) :
    withInputs big voices iw labels times k = k v0 inp := by
  obtain ⟨vs, rfl⟩ := List.head?_eq_some_iff.1 hv0
  simp only [withInputs, hin, bind_ok]

theorem withInputs_eq_ok {b : β} (h : withInputs big voices iw labels times k = .ok b) :
    ∃ v0 inp, voices.head? = some v0 ∧ engineIn big voices iw labels times = .ok inp ∧ k v0 inp = .ok b := by
  cases voices with
  | nil => cases h
  | cons v0 vs =>
    obtain ⟨inp, hin, hk⟩ := bind_eq_ok_iff.1 h
    exact ⟨v0, inp, rfl, hin, hk⟩

theorem withInputs_map (g : β → γ) : (withInputs big voices iw labels times k).map g =
    withInputs big voices iw labels times fun v0 inp => (k v0 inp).map g := by
  cases voices with
  | nil => rfl
  | cons v0 vs => exact map_bind _ _ _

end withInputs

theorem synthesize_eq_engine (fx : Fix) (big : K) (v0 : ParsedVoice) (vs : List ParsedVoice) (iw : IW K)
    (ops : List (CondOp K)) (f : Condition K → Bool) (labels : List (List Char)) (times : List (K × K))
    (inp : EngineIn K) (hin : engineIn big (v0 :: vs) iw labels times = .ok inp) :
    synthesize fx big (v0 :: vs) iw ops f labels times =
      engineSynthesize fx (condOf v0 ops) (f (condOf v0 ops)) inp := by
  rw [synthesize_eq, withInputs_of_ok rfl hin]

theorem synthesize_panic_of_engineIn (fx : Fix) (big : K) (v0 : ParsedVoice) (vs : List ParsedVoice) (iw : IW K)
    (ops : List (CondOp K)) (f : Condition K → Bool) (labels : List (List Char)) (times : List (K × K))
    (s : String) (hin : engineIn big (v0 :: vs) iw labels times = .panic s) :
    synthesize fx big (v0 :: vs) iw ops f labels times = .panic s := by
  rw [synthesize_eq, withInputs, hin]; rfl

theorem synthesize_err_of_engineIn (fx : Fix) (big : K) (v0 : ParsedVoice) (vs : List ParsedVoice) (iw : IW K)
    (ops : List (CondOp K)) (f : Condition K → Bool) (labels : List (List Char)) (times : List (K × K))
    (e : Unit) (hin : engineIn big (v0 :: vs) iw labels times = .err e) :
    synthesize fx big (v0 :: vs) iw ops f labels times = .err e := by
  rw [synthesize_eq, withInputs, hin]; rfl

/-- the model's value for an input the library rejects at load time: `Engine::load(&[])` returns
    `Err("No HTS voice was given.")`, and `VoiceSet::first` is never reached on an empty set -/
theorem synthesize_nil (fx : Fix) (big : K) (iw : IW K)
    (ops : List (CondOp K)) (f : Condition K → Bool) (labels : List (List Char)) (times : List (K × K)) :
    synthesize fx big [] iw ops f labels times = .panic "voice_set.rs:first" := rfl

/-- the hypothesis is `condOf v0 ops = condOf v0 ops'` for the first voice, if there is one, written out with `head?` -/
theorem synthesize_congr (fx : Fix) (big : K) (voices : List ParsedVoice) (iw : IW K) (ops ops' : List (CondOp K))
    (f : Condition K → Bool) (labels : List (List Char)) (times : List (K × K))
    (h : applyHistory (Condition.default.loadModel (voices.head?.map (·.global.sr) |>.getD 0)
          (voices.head?.map (·.global.fp) |>.getD 0) (voices.head?.map (·.global.nstreams) |>.getD 0)
          (voices.head?.map (fun v => (headerOptions (α := K) v).1) |>.getD none)
          (voices.head?.map (fun v => (headerOptions (α := K) v).2.1) |>.getD none)
          (voices.head?.map (fun v => (headerOptions (α := K) v).2.2) |>.getD none)) ops =
        applyHistory (Condition.default.loadModel (voices.head?.map (·.global.sr) |>.getD 0)
          (voices.head?.map (·.global.fp) |>.getD 0) (voices.head?.map (·.global.nstreams) |>.getD 0)
          (voices.head?.map (fun v => (headerOptions (α := K) v).1) |>.getD none)
          (voices.head?.map (fun v => (headerOptions (α := K) v).2.1) |>.getD none)
          (voices.head?.map (fun v => (headerOptions (α := K) v).2.2) |>.getD none)) ops') :
    synthesize fx big voices iw ops f labels times = synthesize fx big voices iw ops' f labels times := by
  simp only [synthesize_eq]
  refine withInputs_congr fun v0 inp hv0 _ => ?_
  simp only [hv0, Option.map_some, Option.getD_some] at h
  simp only [condOf, h]

section inversion
variable {big : K} {voices : List ParsedVoice} {iw : IW K} {labels : List (List Char)} {times : List (K × K)}
  {v0 : ParsedVoice} {inp : EngineIn K}

theorem engineIn_fields (hv0 : voices.head? = some v0) (hin : engineIn big voices iw labels times = .ok inp) :
    inp.nstate = v0.global.nstates ∧ inp.nstream = v0.global.nstreams ∧ inp.times = times ∧
      modelsDuration voices iw labels = .ok inp.duration ∧ inp.streams.length = v0.global.nstreams ∧
      ∀ i s, inp.streams[i]? = some s ↔
        (i < v0.global.nstreams ∧ modelStream big voices iw labels v0.global.nstates i = .ok s) := by
  obtain ⟨vs, rfl⟩ := List.head?_eq_some_iff.1 hv0
  simp only [engineIn, bind_eq_ok_iff, ok.injEq] at hin
  obtain ⟨dur, hd, streams, hs, rfl⟩ := hin
  obtain ⟨hl, hi⟩ := sequenceOut_range_eq_ok_iff.1 hs
  exact ⟨rfl, rfl, rfl, hd, hl, hi⟩

theorem engineIn_duration (hv0 : voices.head? = some v0) (hin : engineIn big voices iw labels times = .ok inp) :
    modelsDuration voices iw labels = .ok inp.duration :=
  (engineIn_fields hv0 hin).2.2.2.1

theorem engineIn_stream_iff (hv0 : voices.head? = some v0) (hin : engineIn big voices iw labels times = .ok inp)
    {i : Nat} {s : StreamIn K} : inp.streams[i]? = some s ↔
      (i < v0.global.nstreams ∧ modelStream big voices iw labels v0.global.nstates i = .ok s) :=
  (engineIn_fields hv0 hin).2.2.2.2.2 i s

theorem modelStream_eq_ok_iff {n i : Nat} {s : StreamIn K} (hv0 : voices.head? = some v0) :
    modelStream big voices iw labels n i = .ok s ↔
      ∃ s0 st gv, v0.streams[i]? = some s0 ∧ modelsStream big voices iw labels n i = .ok st ∧
        modelsGv voices iw labels n i = .ok gv ∧
        s = { vectorLength := s0.info.veclen, stream := st, gv,
              windows := s0.windows.map fun w => w.map FromFile.ofDecimal } := by
  obtain ⟨vs, rfl⟩ := List.head?_eq_some_iff.1 hv0
  unfold modelStream streamOf
  cases h : v0.streams[i]? with
  | none => simp [h]
  | some s0 =>
    simp only [h, bind_eq_ok_iff, ok.injEq, Option.some.injEq]
    exact ⟨fun ⟨st, h1, gv, h2, e⟩ => ⟨s0, st, gv, rfl, h1, h2, e.symm⟩,
      fun ⟨_, st, gv, rfl, h1, h2, e⟩ => ⟨st, h1, gv, h2, e.symm⟩⟩

/-- the delta windows of a stream of the stage inputs are the first voice's `STREAM_WIN` coefficients -/
theorem modelStream_windows (big : K) (v0 : ParsedVoice) (vs : List ParsedVoice) (iw : IW K)
    (labels : List (List Char)) (n i : Nat) (s : StreamIn K)
    (h : modelStream big (v0 :: vs) iw labels n i = .ok s) :
    ∃ s0, v0.streams[i]? = some s0 ∧ s.vectorLength = s0.info.veclen ∧
      s.windows = s0.windows.map fun w => w.map FromFile.ofDecimal := by
  obtain ⟨s0, st, gv, h0, -, -, rfl⟩ := (modelStream_eq_ok_iff (v0 := v0) rfl).1 h
  exact ⟨s0, h0, rfl, rfl⟩

/-- `Models::gv(i)`: nothing if the first voice's stream `i` has `USE_GV = 0` or there is no label; otherwise the switch
    is "label is not a GV-off context", once per state of every label -/
theorem modelsGv_spec {n i : Nat} {gv : Option (List (MeanVari K) × List Bool)} (hv0 : voices.head? = some v0)
    (h : modelsGv voices iw labels n i = .ok gv) :
    ∃ s0, v0.streams[i]? = some s0 ∧
      (s0.info.useGv = false ∨ labels = [] → gv = none) ∧
      ∀ g sw, gv = some (g, sw) →
        sw = (labels.map fun l => List.replicate n (!(questionTest v0.global.gvOff l))).flatten := by
  obtain ⟨vs, rfl⟩ := List.head?_eq_some_iff.1 hv0
  unfold modelsGv streamOf at h
  cases hs0 : v0.streams[i]? with
  | none => simp [hs0] at h
  | some s0 =>
    refine ⟨s0, rfl, ?_⟩
    simp only [hs0] at h
    cases hu : s0.info.useGv with
    | false =>
      simp only [hu, Bool.not_false, if_true, ok.injEq] at h
      subst h
      simp
    | true =>
      cases labels with
      | nil =>
        simp only [hu, Bool.not_true, Bool.false_eq_true, if_false, ok.injEq] at h
        subst h
        simp
      | cons l0 ls =>
        simp only [hu, Bool.not_true, Bool.false_eq_true, if_false, map_eq_ok_iff] at h
        obtain ⟨mp, -, rfl⟩ := h
        simp
end inversion

theorem modelsDuration_congr_iw (voices : List ParsedVoice) (iw iw' : IW K) (labels : List (List Char))
    (h : iw.duration = iw'.duration) : modelsDuration voices iw labels = modelsDuration voices iw' labels := by
  unfold modelsDuration; rw [h]

theorem modelsStream_congr_iw (big : K) (voices : List ParsedVoice) (iw iw' : IW K)
    (labels : List (List Char)) (nstate i : Nat) (h : iw.parameter.getD i [] = iw'.parameter.getD i []) :
    modelsStream big voices iw labels nstate i = modelsStream big voices iw' labels nstate i := by
  unfold modelsStream; rw [h]

theorem modelsGv_congr_iw (voices : List ParsedVoice) (iw iw' : IW K)
    (labels : List (List Char)) (nstate i : Nat) (h : iw.gv.getD i [] = iw'.gv.getD i []) :
    modelsGv voices iw labels nstate i = modelsGv voices iw' labels nstate i := by
  unfold modelsGv; rw [h]

def StreamWeightsSame (iw iw' : IW K) (i : Nat) : Prop :=
  iw.parameter.getD i [] = iw'.parameter.getD i [] ∧ iw.gv.getD i [] = iw'.gv.getD i []

theorem modelStream_congr_iw (big : K) (voices : List ParsedVoice) (iw iw' : IW K) (labels : List (List Char))
    (n i : Nat) (h : StreamWeightsSame iw iw' i) :
    modelStream big voices iw labels n i = modelStream big voices iw' labels n i := by
  unfold modelStream
  rw [modelsStream_congr_iw big voices iw iw' labels n i h.1,
    modelsGv_congr_iw voices iw iw' labels n i h.2]

/-- the stage inputs read the duration weights and, for each stream of the first voice, `parameter[i]` and `gv[i]` —
    nothing else of the interpolation weights (not `nvoices`, not the vectors of streams that do not exist) -/
theorem engineIn_congr_iw (big : K) (voices : List ParsedVoice) (iw iw' : IW K) (labels : List (List Char))
    (times : List (K × K)) (hd : iw.duration = iw'.duration)
    (hs : ∀ v0, voices.head? = some v0 → ∀ i < v0.global.nstreams, StreamWeightsSame iw iw' i) :
    engineIn big voices iw labels times = engineIn big voices iw' labels times := by
  cases voices with
  | nil => rfl
  | cons v0 vs =>
    unfold engineIn
    simp only
    rw [modelsDuration_congr_iw (v0 :: vs) iw iw' labels hd,
      List.map_congr_left fun i hi =>
        modelStream_congr_iw big (v0 :: vs) iw iw' labels _ i (hs v0 rfl i (List.mem_range.1 hi))]

theorem withInputs_congr_iw {β : Type} (big : K) (voices : List ParsedVoice) (iw iw' : IW K) (labels : List (List Char))
    (times : List (K × K)) (k : ParsedVoice → EngineIn K → Outcome Unit β) (hd : iw.duration = iw'.duration)
    (hs : ∀ v0, voices.head? = some v0 → ∀ i < v0.global.nstreams, StreamWeightsSame iw iw' i) :
    withInputs big voices iw labels times k = withInputs big voices iw' labels times k := by
  unfold withInputs
  rw [engineIn_congr_iw big voices iw iw' labels times hd hs]

end Synth
end Jb
