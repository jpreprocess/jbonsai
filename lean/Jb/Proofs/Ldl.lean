/-
  The banded LDLᵀ solver of `Jb/Model/Mlpg.lean` (`ldlRows`, `forwardSub`, `backwardSub`) solves the
  symmetric band system it is given whenever every pivot it divides by is non-zero (`ldl_solves`), and on a
  positive definite system every pivot is positive (`ldl_pivots_pos`) — which discharges that hypothesis for
  the MLPG system, whose matrix W'U⁻¹W is positive definite as soon as the static precisions are positive.
  The code's loops are shown to satisfy the recurrences of `Jb/Proofs/BandLdl.lean`, where the algebra is.
-/
import Jb.Model.Mlpg
import Jb.Proofs.BandLdl
import Jb.Proofs.ListAux

namespace Jb

open Finset

variable {K : Type} [Field K]

/-- entry `(t, j)` of a banded row store (0 outside) -/
def bandAt (rows : List (List K)) (t j : Nat) : K := (rows.getD t []).getD j 0

theorem foldl_sub_range (f : ℕ → K) (x : K) (n : ℕ) :
    (List.range n).foldl (fun acc i => acc - f i) x = x - ∑ i ∈ range n, f i := by
  simp only [sub_eq_add_neg]
  rw [foldl_add_map (fun i => -f i), sum_map_range, sum_neg_distrib]

theorem ldlRow_length (w : ℕ) (hw : 1 ≤ w) (prev : List (List K)) (row : List K) :
    (ldlRow w prev row).length = w := by
  simp only [ldlRow, List.length_cons, List.length_map, List.length_range]
  omega

theorem ldlRow_getD_zero (w : ℕ) (prev : List (List K)) (row : List K) :
    (ldlRow w prev row).getD 0 0 = row.getD 0 0 -
      ∑ i0 ∈ range (min w (prev.length + 1) - 1),
        (prev.getD i0 []).getD (i0 + 1) 0 * (prev.getD i0 []).getD (i0 + 1) 0
          * (prev.getD i0 []).getD 0 0 := by
  simp only [ldlRow, List.getD_cons_zero]
  rw [foldl_sub_range]

theorem ldlRow_getD_succ (w : ℕ) (prev : List (List K)) (row : List K) (j : ℕ) (hj : j + 1 < w) :
    (ldlRow w prev row).getD (j + 1) 0 = (row.getD (j + 1) 0 -
      ∑ i0 ∈ range (min (w - (j + 1)) (prev.length + 1) - 1),
        (prev.getD i0 []).getD (i0 + 1) 0 * (prev.getD i0 []).getD (j + 1 + (i0 + 1)) 0
          * (prev.getD i0 []).getD 0 0) / (ldlRow w prev row).getD 0 0 := by
  have hj' : j < w - 1 := by omega
  simp only [ldlRow, List.getD_cons_zero, List.getD_cons_succ]
  rw [List.getD_eq_getElem?_getD, List.getElem?_map, List.getElem?_range hj']
  simp only [Option.map_some, Option.getD_some]
  rw [foldl_sub_range]

theorem ldlRows_snoc (w : ℕ) (rows : List (List K)) (row : List K) :
    ldlRows w (rows ++ [row]) = ldlRows w rows ++ [ldlRow w (ldlRows w rows).reverse row] := by
  simp [ldlRows, List.foldl_append]

/-- row `t` of the factor is `ldlRow` of the rows before it (most recent first) and the stored row `t` -/
theorem ldlRows_spec (w : ℕ) (rows : List (List K)) :
    (ldlRows w rows).length = rows.length ∧ ∀ t, t < rows.length →
      (ldlRows w rows).getD t [] = ldlRow w ((ldlRows w rows).take t).reverse (rows.getD t []) := by
  obtain ⟨h1, h2⟩ := take_getD_of_snoc_step (F := ldlRows w) rfl (ldlRows_snoc w) rows
  exact ⟨h1, fun t ht => by rw [(h2 t ht [] []).2, (h2 t ht [] []).1]⟩

theorem ldlRows_length (w : ℕ) (rows : List (List K)) : (ldlRows w rows).length = rows.length :=
  (ldlRows_spec w rows).1

theorem bandAt_high (w : ℕ) (rows : List (List K)) (hrow : ∀ row ∈ rows, row.length = w)
    (k j : ℕ) (hj : w ≤ j) : bandAt rows k j = 0 :=
  forall_getD (P := fun row : List K => row.getD j 0 = 0) rfl
    (fun row h => List.getD_eq_default _ _ (hrow row h ▸ hj)) k

theorem bandAt_ldlRows_high (w : ℕ) (hw : 1 ≤ w) (rows : List (List K)) (k j : ℕ) (hj : w ≤ j) :
    bandAt (ldlRows w rows) k j = 0 := by
  refine bandAt_high w _ (fun row hrow => ?_) k j hj
  obtain ⟨t, ht, rfl⟩ := List.getElem_of_mem hrow
  rw [← List.getD_eq_getElem _ [] ht, (ldlRows_spec w rows).2 t (ldlRows_length w rows ▸ ht),
    ldlRow_length w hw]

theorem bandAt_ldlRows (w : ℕ) (rows : List (List K)) {t : ℕ} (ht : t < rows.length) (j : ℕ) :
    bandAt (ldlRows w rows) t j =
      (ldlRow w ((ldlRows w rows).take t).reverse (rows.getD t [])).getD j 0 := by
  rw [bandAt, (ldlRows_spec w rows).2 t ht]

/-- the code's history at row `t`, read as band entries -/
theorem bandAt_prev (L : List (List K)) {t i0 : ℕ} (ht : t ≤ L.length) (hi : i0 < t) (j : ℕ) :
    ((L.take t).reverse.getD i0 []).getD j 0 = bandAt L (t - 1 - i0) j := by
  rw [getD_take_reverse L ht hi, bandAt]

theorem ldl_prev_length (w : ℕ) (rows : List (List K)) (t : ℕ) (ht : t < rows.length) :
    ((ldlRows w rows).take t).reverse.length = t := by
  rw [List.length_reverse, List.length_take, ldlRows_length]
  omega

/-- The pivot recurrence. Here and in `ldlRows_off`, `forwardSub_rec`, `backwardSub_rec` the sum runs over all
    earlier (backward substitution: later) rows, not only over the `w − 1` nearest as in the code; the extra terms
    vanish with the band, and `sum_band_recent` bridges the two. This is the form `IsLdl` of `BandLdl.lean` asks for. -/
theorem ldlRows_diag (w : ℕ) (hw : 1 ≤ w) (rows : List (List K)) (t : ℕ) (ht : t < rows.length) :
    bandAt (ldlRows w rows) t 0 = bandAt rows t 0 -
      ∑ k ∈ range t, bandAt (ldlRows w rows) k (t - k) * bandAt (ldlRows w rows) k (t - k)
        * bandAt (ldlRows w rows) k 0 := by
  have hL : t ≤ (ldlRows w rows).length := by rw [ldlRows_length]; exact ht.le
  rw [← sum_band_recent (fun k i => bandAt (ldlRows w rows) k i * bandAt (ldlRows w rows) k i
      * bandAt (ldlRows w rows) k 0) t fun k i hi => by
        rw [bandAt_ldlRows_high w hw rows k i hi, zero_mul, zero_mul]]
  conv_lhs => rw [bandAt_ldlRows w rows ht, ldlRow_getD_zero, ldl_prev_length w rows t ht]
  refine congrArg (bandAt rows t 0 - ·) (sum_congr rfl fun i0 hi => ?_)
  have hi := lt_of_mem_range_recent hi
  simp only [bandAt_prev _ hL hi]

theorem ldlRows_off (w : ℕ) (hw : 1 ≤ w) (rows : List (List K)) (hrow : ∀ row ∈ rows, row.length = w)
    (t : ℕ) (ht : t < rows.length) (hd : bandAt (ldlRows w rows) t 0 ≠ 0) (j : ℕ) (hj : 1 ≤ j) :
    bandAt (ldlRows w rows) t j * bandAt (ldlRows w rows) t 0 = bandAt rows t j -
      ∑ k ∈ range t, bandAt (ldlRows w rows) k (t - k) * bandAt (ldlRows w rows) k (t - k + j)
        * bandAt (ldlRows w rows) k 0 := by
  have hL : t ≤ (ldlRows w rows).length := by rw [ldlRows_length]; exact ht.le
  rw [← sum_band_recent (n := w - j) (fun k i => bandAt (ldlRows w rows) k i
      * bandAt (ldlRows w rows) k (i + j) * bandAt (ldlRows w rows) k 0) t fun k i hi => by
        rw [bandAt_ldlRows_high w hw rows k (i + j) (by omega), mul_zero, zero_mul]]
  rcases Nat.lt_or_ge j w with hjw | hjw
  · obtain ⟨j, rfl⟩ : ∃ j', j = j' + 1 := ⟨j - 1, by omega⟩
    rw [bandAt_ldlRows w rows ht] at hd
    conv_lhs => rw [bandAt_ldlRows w rows ht, bandAt_ldlRows w rows ht, ldlRow_getD_succ w _ _ j hjw,
      div_mul_cancel₀ _ hd, ldl_prev_length w rows t ht]
    refine congrArg (bandAt rows t (j + 1) - ·) (sum_congr rfl fun i0 hi => ?_)
    have hi := lt_of_mem_range_recent hi
    simp only [bandAt_prev _ hL hi, Nat.add_comm (j + 1)]
  · rw [bandAt_ldlRows_high w hw rows t j hjw, bandAt_high w rows hrow t j hjw, zero_mul,
      show w - j = 0 by omega, Nat.zero_min, Nat.zero_sub, sum_range_zero, sub_zero]

/-- the rows `ldlRows` returns are the LDLᵀ factors of the stored band on every leading block whose
    earlier pivots are non-zero -/
theorem ldlRows_isLdl (w : ℕ) (hw : 1 ≤ w) (rows : List (List K)) (hrow : ∀ row ∈ rows, row.length = w)
    {T : ℕ} (hT : T ≤ rows.length) (hpiv : ∀ t, t + 1 < T → bandAt (ldlRows w rows) t 0 ≠ 0) :
    IsLdl T (bandAt rows) (bandAt (ldlRows w rows)) fun t => bandAt (ldlRows w rows) t 0 :=
  ⟨fun t ht => ldlRows_diag w hw rows t (ht.trans_le hT),
    fun t ht j hj => ldlRows_off w hw rows hrow t (by omega) (hpiv t ht) j hj⟩

/-- the fold step of `forwardSub`, with the inner fold already summed -/
def fwdStep (w : ℕ) (st : List (List K) × List K) (x : List K × K) : List (List K) × List K :=
  (x.1 :: st.1,
    (x.2 - ∑ i0 ∈ range (min w (st.2.length + 1) - 1),
      (st.1.getD i0 []).getD (i0 + 1) 0 * st.2.getD i0 0) :: st.2)

/-- `forwardSub` over the zipped input, as a fold of `fwdStep`: the state is (factor rows so far, results so
    far), both most recent first -/
def fwd (w : ℕ) (xs : List (List K × K)) : List (List K) × List K :=
  xs.foldl (fwdStep w) ([], [])

theorem forwardSub_eq (w : ℕ) (lrows : List (List K)) (r : List K) :
    forwardSub w lrows r = (fwd w (lrows.zip r)).2.reverse := by
  simp only [forwardSub, fwd]
  congr 3
  funext st x
  rcases st with ⟨a, b⟩
  simp only [fwdStep]
  rw [foldl_sub_range]

theorem fwd_snoc (w : ℕ) (xs : List (List K × K)) (x : List K × K) :
    fwd w (xs ++ [x]) = fwdStep w (fwd w xs) x := by
  rw [fwd, List.foldl_append]; rfl

theorem fwd_fst (w : ℕ) (xs : List (List K × K)) : (fwd w xs).1 = (xs.map Prod.fst).reverse := by
  induction xs using List.reverseRecOn with
  | nil => rfl
  | append_singleton xs x ih =>
    rw [fwd_snoc, fwdStep, ih, List.map_append, List.reverse_append]; rfl

theorem fwd_snd_length (w : ℕ) (xs : List (List K × K)) : (fwd w xs).2.length = xs.length := by
  induction xs using List.reverseRecOn with
  | nil => rfl
  | append_singleton xs x ih =>
    rw [fwd_snoc, fwdStep, List.length_cons, ih, List.length_append, List.length_singleton]

theorem fwd_spec (w : ℕ) (xs : List (List K × K)) (t : ℕ) (ht : t < xs.length) :
    (fwd w xs).2.reverse.getD t 0 = (xs.getD t ([], 0)).2 -
      ∑ i0 ∈ range (min w (t + 1) - 1),
        ((xs.getD (t - 1 - i0) ([], 0)).1).getD (i0 + 1) 0
          * (fwd w xs).2.reverse.getD (t - 1 - i0) 0 := by
  -- `h` is written in terms of `F xs = (fwd w xs).2.reverse` (hence the double `reverse`), so that
  -- `F (xs.take t) = (F xs).take t` rewrites it
  obtain ⟨h1, h2⟩ := take_getD_of_snoc_step (F := fun xs => (fwd w xs).2.reverse)
    (h := fun xs x => x.2 - ∑ i0 ∈ range (min w (xs.length + 1) - 1),
      ((xs.map Prod.fst).reverse.getD i0 []).getD (i0 + 1) 0 * (fwd w xs).2.reverse.reverse.getD i0 0) rfl
    (fun xs x => by
      simp only [fwd_snoc, fwdStep, List.reverse_cons, fwd_fst, fwd_snd_length, List.reverse_reverse]) xs
  obtain ⟨e1, e2⟩ := h2 t ht 0 ([], 0)
  rw [e2, List.length_take, min_eq_left ht.le, e1, List.map_take]
  refine congrArg (_ - ·) (sum_congr rfl fun i0 hi => ?_)
  have hi := lt_of_mem_range_recent hi
  rw [getD_take_reverse _ (by rw [List.length_map]; exact ht.le) hi,
    getD_take_reverse _ (h1 ▸ ht.le) hi]
  congr 2
  exact List.getD_map xs (([], 0) : List K × K) Prod.fst

/-- `backwardSub` over the zipped input, with the inner fold already summed; `acc` holds the results for the
    later rows, nearest first -/
def bwd (w : ℕ) (xs : List (List K × K)) : List K :=
  xs.foldr (fun x acc =>
    (x.2 / x.1.getD 0 0 - ∑ i0 ∈ range (min w (acc.length + 1) - 1),
      x.1.getD (i0 + 1) 0 * acc.getD i0 0) :: acc) []

theorem backwardSub_eq (w : ℕ) (lrows : List (List K)) (g : List K) :
    backwardSub w lrows g = bwd w (lrows.zip g) := by
  unfold backwardSub bwd
  congr 1
  funext x acc
  rw [foldl_sub_range]

theorem bwd_length (w : ℕ) (xs : List (List K × K)) : (bwd w xs).length = xs.length := by
  induction xs with
  | nil => rfl
  | cons x xs ih => rw [bwd, List.foldr_cons, List.length_cons, ← bwd, ih, List.length_cons]

theorem bwd_spec (w : ℕ) (xs : List (List K × K)) (t : ℕ) (ht : t < xs.length) :
    (bwd w xs).getD t 0 = (xs.getD t ([], 0)).2 / (xs.getD t ([], 0)).1.getD 0 0 -
      ∑ i0 ∈ range (min w (xs.length - t) - 1),
        (xs.getD t ([], 0)).1.getD (i0 + 1) 0 * (bwd w xs).getD (t + 1 + i0) 0 := by
  induction xs generalizing t with
  | nil => exact absurd ht (Nat.not_lt_zero t)
  | cons x xs ih =>
    rw [bwd, List.foldr_cons, ← bwd, bwd_length]
    cases t with
    | zero =>
      simp only [List.getD_cons_zero, List.length_cons, Nat.sub_zero, Nat.zero_add, Nat.add_comm 1,
        List.getD_cons_succ]
    | succ t =>
      simp only [List.getD_cons_succ, List.length_cons, Nat.add_sub_add_right,
        ih t (Nat.lt_of_succ_lt_succ ht), Nat.add_right_comm (t + 1) 1]

theorem forwardSub_length (w : ℕ) (lrows : List (List K)) (r : List K) :
    (forwardSub w lrows r).length = min lrows.length r.length := by
  rw [forwardSub_eq, List.length_reverse, fwd_snd_length, List.length_zip]

theorem backwardSub_length (w : ℕ) (lrows : List (List K)) (g : List K) :
    (backwardSub w lrows g).length = min lrows.length g.length := by
  rw [backwardSub_eq, bwd_length, List.length_zip]

theorem forwardSub_rec (w : ℕ) (hw : 1 ≤ w) (rows : List (List K)) (r : List K)
    (hr : r.length = rows.length) (t : ℕ) (ht : t < rows.length) :
    (forwardSub w (ldlRows w rows) r).getD t 0 = r.getD t 0 -
      ∑ k ∈ range t, bandAt (ldlRows w rows) k (t - k)
        * (forwardSub w (ldlRows w rows) r).getD k 0 := by
  have hL := ldlRows_length w rows
  have hlt : ∀ i0, t - 1 - i0 < rows.length := fun i0 => by omega
  rw [← sum_band_recent (fun k i => bandAt (ldlRows w rows) k i
      * (forwardSub w (ldlRows w rows) r).getD k 0) t fun k i hi => by
        rw [bandAt_ldlRows_high w hw rows k i hi, zero_mul]]
  simp only [forwardSub_eq]
  rw [fwd_spec w _ t (by rw [List.length_zip, hL, hr, Nat.min_self]; exact ht),
    getD_zip _ _ _ (hL.symm ▸ ht) (hr.symm ▸ ht)]
  refine congrArg (r.getD t 0 - ·) (sum_congr rfl fun i0 _ => ?_)
  rw [getD_zip _ _ _ (hL.symm ▸ hlt i0) (hr.symm ▸ hlt i0), bandAt]

theorem backwardSub_rec (w : ℕ) (hw : 1 ≤ w) (rows : List (List K)) (g : List K)
    (hg : g.length = rows.length) (t : ℕ) (ht : t < rows.length)
    (hd : bandAt (ldlRows w rows) t 0 ≠ 0) :
    g.getD t 0 = bandAt (ldlRows w rows) t 0 *
      ((backwardSub w (ldlRows w rows) g).getD t 0 +
        ∑ i ∈ range (rows.length - 1 - t), bandAt (ldlRows w rows) t (i + 1)
          * (backwardSub w (ldlRows w rows) g).getD (t + 1 + i) 0) := by
  have hL := ldlRows_length w rows
  have hlen : (List.zip (ldlRows w rows) g).length = rows.length := by
    rw [List.length_zip, hL, hg, Nat.min_self]
  rw [← sum_range_extend _ (show min w (rows.length - t) - 1 ≤ rows.length - 1 - t by omega)
    fun j h1 _ => by rw [bandAt_ldlRows_high w hw rows t (j + 1) (by omega), zero_mul]]
  rw [backwardSub_eq, bwd_spec w _ t (hlen.symm ▸ ht), getD_zip _ _ _ (hL.symm ▸ ht) (hg.symm ▸ ht), hlen]
  unfold bandAt at hd ⊢
  rw [sub_add_cancel, mul_div_cancel₀ _ hd]

/-- `(A c)[t]` for the symmetric band matrix `A[t][t+j] = A[t+j][t] = rows[t][j]`, `0 ≤ j < w`. -/
def bandMulVec (w : Nat) (rows : List (List K)) (c : List K) (t : Nat) : K :=
  (Finset.range w).sum (fun j => if t + j < rows.length then bandAt rows t j * c.getD (t + j) 0 else 0) +
  (Finset.range w).sum (fun j => if 1 ≤ j ∧ j ≤ t then bandAt rows (t - j) j * c.getD (t - j) 0 else 0)

theorem bandMulVec_eq (w : ℕ) (hw : 1 ≤ w) (rows : List (List K))
    (hrow : ∀ row ∈ rows, row.length = w) (c : List K) (t : ℕ) (ht : t < rows.length) :
    bandMulVec w rows c t = bandRow rows.length (bandAt rows) (fun s => c.getD s 0) t := by
  have hz := bandAt_high w rows hrow
  rw [bandMulVec, bandRow, add_comm]
  congr 1
  · rw [← sum_band_recent (fun k i => bandAt rows k i * c.getD k 0) t fun k i hi => by
      rw [hz k i hi, zero_mul]]
    obtain ⟨w, rfl⟩ : ∃ w', w = w' + 1 := ⟨w - 1, by omega⟩
    rw [sum_range_succ', if_neg (by omega), add_zero, ← sum_range_extend _
      (show min (w + 1) (t + 1) - 1 ≤ w by omega) fun j h1 _ => if_neg (by omega)]
    refine sum_congr rfl fun i hi => ?_
    have := mem_range.1 hi
    rw [if_pos (by omega), Nat.sub_sub, Nat.add_comm 1 i]
  · rw [← sum_range_extend (fun i => bandAt rows t i * c.getD (t + i) 0)
        (Nat.min_le_right w (rows.length - t)) fun j h1 _ => by rw [hz t j (by omega), zero_mul],
      ← sum_range_extend _ (Nat.min_le_left w (rows.length - t)) fun j h1 _ => if_neg (by omega)]
    exact sum_congr rfl fun j hj => if_pos (by have := mem_range.1 hj; omega)

/-- the quadratic form `xᵀ A x` of the symmetric band matrix stored in `rows` -/
def bandQuad (w : Nat) (rows : List (List K)) (x : List K) : K :=
  (Finset.range rows.length).sum fun t => x.getD t 0 * bandMulVec w rows x t

theorem bandQuad_eq_quadF (w : Nat) (hw : 1 ≤ w) (rows : List (List K))
    (hrow : ∀ row ∈ rows, row.length = w) (x : List K) :
    bandQuad w rows x = quadF rows.length (bandAt rows) (fun s => x.getD s 0) := by
  unfold bandQuad quadF
  apply sum_congr rfl
  intro t ht
  rw [bandMulVec_eq w hw rows hrow x t (mem_range.mp ht)]

variable [LinearOrder K] [IsStrictOrderedRing K]

set_option linter.unusedSectionVars false in
theorem ldl_solves (w : Nat) (hw : 1 ≤ w) (rows : List (List K)) (r : List K)
    (hr : r.length = rows.length) (hrow : ∀ row ∈ rows, row.length = w)
    (hpiv : ∀ t, t < rows.length → bandAt (ldlRows w rows) t 0 ≠ 0) :
    let l := ldlRows w rows
    let c := backwardSub w l (forwardSub w l r)
    c.length = rows.length ∧ ∀ t, t < rows.length → bandMulVec w rows c t = r.getD t 0 := by
  intro l c
  have hG : (forwardSub w l r).length = rows.length := by
    rw [forwardSub_length, ldlRows_length]; omega
  refine ⟨by rw [backwardSub_length, ldlRows_length]; omega, fun t ht => ?_⟩
  rw [bandMulVec_eq w hw rows hrow c t ht]
  exact (ldlRows_isLdl w hw rows hrow le_rfl fun t ht => hpiv t (Nat.lt_of_succ_lt ht)).solves
    (fun t ht => forwardSub_rec w hw rows r hr t ht)
    (fun t ht => backwardSub_rec w hw rows (forwardSub w l r) hG t ht (hpiv t ht)) ht

/-- **Pivots are positive.** If the stored symmetric band matrix is positive definite (on vectors of the
    right length), every pivot `d_t` the factorisation divides by is positive. -/
theorem ldl_pivots_pos (w : Nat) (hw : 1 ≤ w) (rows : List (List K))
    (hrow : ∀ row ∈ rows, row.length = w)
    (hpd : ∀ x : List K, x.length = rows.length → (∃ t, t < rows.length ∧ x.getD t 0 ≠ 0) →
      0 < bandQuad w rows x) :
    ∀ t, t < rows.length → 0 < bandAt (ldlRows w rows) t 0 := by
  intro t
  induction t using Nat.strong_induction_on with
  | _ t ih =>
    intro ht
    -- a vector with `x_t = 1`, zero past `t`, whose quadratic form on the leading block is the pivot
    obtain ⟨x, hxt, hx0, hq⟩ := (ldlRows_isLdl w hw rows hrow (show t + 1 ≤ rows.length from ht)
      fun s hs => ne_of_gt (ih s (by omega) (by omega))).exists_pivot_vector
    -- `hpd` speaks of lists: take the first `rows.length` values of `x`; the list reads back as `x`
    -- because `x` vanishes past `t`
    have hget : (fun s => ((List.range rows.length).map x).getD s 0) = x := by
      funext s
      rcases Nat.lt_or_ge s rows.length with h | h
      · exact getD_map_range x h 0
      · rw [List.getD_eq_default _ _ (by simpa using h), hx0 s (by omega)]
    have hpos := hpd ((List.range rows.length).map x) (by simp)
      ⟨t, ht, by rw [congrFun hget t, hxt]; exact one_ne_zero⟩
    rwa [bandQuad_eq_quadF w hw rows hrow, hget,
      quadF_shrink (show t + 1 ≤ rows.length from ht) _ _ (fun s hs => hx0 s hs), hq] at hpos

end Jb
