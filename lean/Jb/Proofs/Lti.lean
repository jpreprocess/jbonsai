/-
  Linear time-invariant maps on finite signals.

  `Lin a b s t u` says `u = a•s + b•t` entry by entry, the three lists having one length; a one-sample function
  `f : σ → K → K × σ` that carries such a relation on states (and inputs) to the same relation on outputs is a
  linear map on every shape of state at once, and no length is ever mentioned.  Its run from a zero state is then
  linear, causal and time-invariant (`IsLTI.of_step`), hence the convolution with its pulse response.
-/
import Mathlib.Algebra.BigOperators.Intervals
import Mathlib.Tactic.Ring

namespace Jb

/-- `R` holds entry by entry, and the three lists have one length -/
inductive Rel₃ {α β γ : Type} (R : α → β → γ → Prop) : List α → List β → List γ → Prop
  | nil : Rel₃ R [] [] []
  | cons {a b c as bs cs} : R a b c → Rel₃ R as bs cs → Rel₃ R (a :: as) (b :: bs) (c :: cs)

namespace Rel₃
variable {α β γ : Type} {R : α → β → γ → Prop} {s : List α} {t : List β} {u : List γ}

theorem length (h : Rel₃ R s t u) : s.length = u.length ∧ t.length = u.length := by
  induction h with
  | nil => exact ⟨rfl, rfl⟩
  | cons _ _ ih => simp [ih.1, ih.2]

theorem getD (h : Rel₃ R s t u) {x y z} (hd : R x y z) (i : Nat) : R (s.getD i x) (t.getD i y) (u.getD i z) := by
  induction h generalizing i with
  | nil => exact hd
  | cons hr _ ih => cases i with
    | zero => exact hr
    | succ i => exact ih i

theorem set (h : Rel₃ R s t u) {x y z} (hx : R x y z) (i : Nat) : Rel₃ R (s.set i x) (t.set i y) (u.set i z) := by
  induction h generalizing i with
  | nil => exact nil
  | cons hr hrest ih => cases i with
    | zero => exact cons hx hrest
    | succ i => exact cons hr (ih i)

theorem replicate {x y z} (h : R x y z) (n : Nat) :
    Rel₃ R (List.replicate n x) (List.replicate n y) (List.replicate n z) := by
  induction n with
  | zero => exact nil
  | succ n ih => exact cons h ih

theorem map {ι : Type} {f : ι → α} {g : ι → β} {k : ι → γ} (h : ∀ i, R (f i) (g i) (k i)) (l : List ι) :
    Rel₃ R (l.map f) (l.map g) (l.map k) := by
  induction l with
  | nil => exact nil
  | cons i l ih => exact cons (h i) ih

theorem map_self {R : α → α → γ → Prop} {f : α → γ} (h : ∀ x, R x x (f x)) (l : List α) : Rel₃ R l l (l.map f) := by
  have := Rel₃.map (f := id) (g := id) h l
  rwa [List.map_id] at this

theorem eq_map {f : α → γ} (hf : ∀ x y z, R x y z → z = f x) (h : Rel₃ R s t u) : u = s.map f := by
  induction h with
  | nil => rfl
  | cons hr _ ih => rw [hf _ _ _ hr, ih, List.map_cons]

end Rel₃

theorem foldl_rel₃ {β ι : Type} {R : β → β → β → Prop} {f g k : β → ι → β}
    (h : ∀ {p q r} i, R p q r → R (f p i) (g q i) (k r i)) (l : List ι) {p q r : β} (hr : R p q r) :
    R (l.foldl f p) (l.foldl g q) (l.foldl k r) := by
  induction l generalizing p q r with
  | nil => exact hr
  | cons i l ih => exact ih (h i hr)

variable {K : Type} [Field K]

/-- `u = a•s + b•t` -/
abbrev Lin (a b : K) : List K → List K → List K → Prop := Rel₃ fun p q r => r = a * p + b * q

theorem Lin.getD {a b : K} {s t u : List K} (h : Lin a b s t u) (i : Nat) :
    u.getD i 0 = a * s.getD i 0 + b * t.getD i 0 :=
  Rel₃.getD h (by ring) i

theorem Lin.add {s t : List K} (h : s.length = t.length) : Lin 1 1 s t (List.zipWith (· + ·) s t) := by
  induction s generalizing t with
  | nil => cases t with
    | nil => exact .nil
    | cons y t => simp at h
  | cons x s ih => cases t with
    | nil => simp at h
    | cons y t => exact .cons (by ring) (ih (by simpa using h))

theorem Lin.add_eq {s t u : List K} (h : Lin 1 1 s t u) : u = List.zipWith (· + ·) s t := by
  induction h with
  | nil => rfl
  | cons hr _ ih => rw [hr, ih, one_mul, one_mul, List.zipWith_cons_cons]

theorem Lin.smul (a : K) (s : List K) : Lin a 0 s s (s.map (a * ·)) :=
  Rel₃.map_self (fun x => by ring) s

theorem Lin.smul_eq {a : K} {s t u : List K} (h : Lin a 0 s t u) : u = s.map (a * ·) :=
  h.eq_map fun x y z hr => by rw [hr, zero_mul, add_zero]

theorem Lin.zero_eq {s t u : List K} (h : Lin 0 0 s t u) : u = List.replicate u.length 0 := by
  induction h with
  | nil => rfl
  | cons hr _ ih => rw [hr, zero_mul, zero_mul, add_zero, List.length_cons, List.replicate_succ, ← ih]

theorem Lin.zero_add (x : K) (xs : List K) : Lin x 1 (List.replicate xs.length 0) xs xs := by
  induction xs with
  | nil => exact .nil
  | cons y ys ih => exact .cons (by ring) ih

def delta (len : Nat) : List K := (List.range len).map fun i => if i = 0 then 1 else 0

theorem delta_succ (len : Nat) : (delta (len + 1) : List K) = 1 :: List.replicate len 0 := by
  simp only [delta, List.range_succ_eq_map, List.map_cons, List.map_map, if_true, Function.comp_def,
    Nat.succ_ne_zero, if_false, List.map_const', List.length_range]

theorem delta_take (len : Nat) : (delta len : List K) = (delta (len + 1)).take len := by
  cases len with
  | zero => rfl
  | succ m => rw [delta_succ, delta_succ, List.take_succ_cons, List.take_replicate, Nat.min_eq_left (Nat.le_succ m)]

/-- A map on signals started from rest (zero initial state): `lin` is linearity, `take` causality (the first `m`
    outputs depend on the first `m` inputs only), `delay` invariance under a shift by one sample — all that
    `convolution` needs. -/
structure IsLTI (run : List K → List K) : Prop where
  length : ∀ xs, (run xs).length = xs.length
  take : ∀ xs m, run (xs.take m) = (run xs).take m
  lin : ∀ {a b xs ys zs}, Lin a b xs ys zs → Lin a b (run xs) (run ys) (run zs)
  delay : ∀ xs, run (0 :: xs) = 0 :: run xs

namespace IsLTI
variable {run run' : List K → List K}

theorem add (h : IsLTI run) {xs ys : List K} (hl : xs.length = ys.length) :
    run (List.zipWith (· + ·) xs ys) = List.zipWith (· + ·) (run xs) (run ys) :=
  (h.lin (Lin.add hl)).add_eq

theorem smul (h : IsLTI run) (a : K) (xs : List K) : run (xs.map (a * ·)) = (run xs).map (a * ·) :=
  (h.lin (Lin.smul a xs)).smul_eq

theorem comp (h : IsLTI run) (h' : IsLTI run') : IsLTI (run' ∘ run) where
  length xs := by rw [Function.comp, h'.length, h.length]
  take xs m := by rw [Function.comp, h.take, h'.take]; rfl
  lin hl := h'.lin (h.lin hl)
  delay xs := by rw [Function.comp, h.delay, h'.delay]; rfl

protected theorem id : IsLTI (id : List K → List K) :=
  ⟨fun _ => rfl, fun _ _ => rfl, fun hl => hl, fun _ => rfl⟩

theorem iterate (h : IsLTI run) : ∀ n : Nat, IsLTI (run^[n])
  | 0 => IsLTI.id
  | n + 1 => h.comp (iterate h n)

theorem convolution (h : IsLTI run) (xs : List K) (n : Nat) (hn : n < xs.length) :
    (run xs).getD n 0 =
      (Finset.range (n + 1)).sum fun k => (run (delta xs.length)).getD k 0 * xs.getD (n - k) 0 := by
  induction xs generalizing n with
  | nil => simp at hn
  | cons x xs ih =>
    -- `x :: xs = x • δ + (0 :: xs)`
    have hdec : Lin x 1 (delta (xs.length + 1)) (0 :: xs) (x :: xs) := by
      rw [delta_succ]
      exact .cons (by ring) (Lin.zero_add x xs)
    -- by causality the pulse response of length `n` is a prefix of that of length `n + 1`
    have hpre : ∀ k, k < xs.length →
        (run (delta xs.length)).getD k 0 = (run (delta (xs.length + 1))).getD k 0 := by
      intro k hk
      rw [delta_take xs.length, h.take]
      simp only [List.getD_eq_getElem?_getD, List.getElem?_take_of_lt hk]
    rw [(h.lin hdec).getD, h.delay, List.length_cons, one_mul]
    cases n with
    | zero => rw [Finset.sum_range_one, List.getD_cons_zero, Nat.sub_self, List.getD_cons_zero, add_zero, mul_comm]
    | succ m =>
      have hm : m < xs.length := Nat.lt_of_succ_lt_succ hn
      rw [List.getD_cons_succ, ih m hm, Finset.sum_range_succ _ (m + 1), Nat.sub_self, List.getD_cons_zero,
        add_comm, mul_comm]
      congr 1
      refine Finset.sum_congr rfl fun k hk => ?_
      have hk' : k ≤ m := Nat.lt_succ_iff.1 (Finset.mem_range.1 hk)
      rw [Nat.succ_sub hk', List.getD_cons_succ, hpre k (by omega)]

end IsLTI

/-! ### the run of a one-sample function -/

section step
variable {σ : Type} {f : σ → K → K × σ} {run : σ → List K → List K}
  (run_nil : ∀ s, run s [] = []) (run_cons : ∀ s x xs, run s (x :: xs) = (f s x).1 :: run (f s x).2 xs)
include run_nil run_cons

omit [Field K] in
theorem run_length (s : σ) (xs : List K) : (run s xs).length = xs.length := by
  induction xs generalizing s with
  | nil => rw [run_nil]
  | cons x xs ih => rw [run_cons, List.length_cons, ih, List.length_cons]

omit [Field K] in
theorem run_take (s : σ) (xs : List K) (m : Nat) : run s (xs.take m) = (run s xs).take m := by
  induction xs generalizing s m with
  | nil => rw [List.take_nil, run_nil, List.take_nil]
  | cons x xs ih => cases m with
    | zero => rw [List.take_zero, run_nil, List.take_zero]
    | succ m => rw [List.take_succ_cons, run_cons, run_cons, List.take_succ_cons, ih]

variable {L : K → K → σ → σ → σ → Prop}
  (hL : ∀ {a b s t u} (x y : K), L a b s t u →
    (f u (a * x + b * y)).1 = a * (f s x).1 + b * (f t y).1 ∧ L a b (f s x).2 (f t y).2 (f u (a * x + b * y)).2)
include hL

/-- `L a b s t u` reads `u = a•s + b•t` on states: if one sample carries it from (state, input) to (output, state),
    as `hL` says, the run carries it from (state, signal) to the output signal -/
theorem run_lin {a b : K} {s t u : σ} (hs : L a b s t u) {xs ys zs : List K} (hx : Lin a b xs ys zs) :
    Lin a b (run s xs) (run t ys) (run u zs) := by
  induction hx generalizing s t u with
  | nil => simp only [run_nil]; exact .nil
  | cons hr _ ih =>
    subst hr
    simp only [run_cons]
    exact .cons (hL _ _ hs).1 (ih (hL _ _ hs).2)

theorem IsLTI.of_step (s0 : σ) (h0 : ∀ a b, L a b s0 s0 s0) (hz : f s0 0 = (0, s0)) : IsLTI (run s0) where
  length := run_length run_nil run_cons s0
  take := run_take run_nil run_cons s0
  lin := run_lin run_nil run_cons hL (h0 _ _)
  delay xs := by rw [run_cons, hz]

end step
end Jb
