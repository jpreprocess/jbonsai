/-
  C04, read-back.  "For every label and state the Gaussian parameters handed to synthesis are bit-equal to the float32
  entries of the PDF the file's tree selects" and "loading yields the window coefficients written in the file".

  `ParseShape` says what an accepted file guarantees (inversion).  This file is the other direction: a *writer* for the
  binary PDF block, for window rows and for the decimal numbers of the header, and the theorems that the reader model
  returns exactly what was written — for every content, no size bound other than the ones the format itself has (a
  count is a `u32`, a header number is a `usize`).  For windows the one condition on a coefficient is the reader's own
  (`isDoubleText`); that such a text is non-empty ASCII without separators is proved on the way (`isDoubleText_bytes`).
-/
import Jb.Proofs.HtsRead
import Mathlib.Data.List.TakeWhile

namespace Jb.Hts

/-- the four little-endian bytes of a word -/
def u32bytes (w : UInt32) : List Nat :=
  [w.toNat % 256, w.toNat / 256 % 256, w.toNat / 65536 % 256, w.toNat / 16777216]

/-- a disjoint `|||` is a sum -/
theorem or_mul_two_pow {a i : Nat} (h : a < 2 ^ i) (b : Nat) : a ||| b * 2 ^ i = a + b * 2 ^ i := by
  rw [← Nat.shiftLeft_eq, Nat.or_comm, ← Nat.shiftLeft_add_eq_or_of_lt h, Nat.shiftLeft_eq, Nat.add_comm]

/-- four bytes, least significant first, packed by shifts and `|||` as `u32le` packs them, are the base-256 number -/
theorem u32_of_bytes (a b c d : Nat) (ha : a < 256) (hb : b < 256) (hc : c < 256) (hd : d < 256) :
    (a ||| b <<< 8 % 2 ^ 32 ||| c <<< 16 % 2 ^ 32 ||| d <<< 24 % 2 ^ 32) =
      a + b * 2 ^ 8 + c * 2 ^ 16 + d * 2 ^ 24 := by
  rw [Nat.shiftLeft_eq, Nat.shiftLeft_eq, Nat.shiftLeft_eq, Nat.mod_eq_of_lt (a := b * _) (by omega),
    Nat.mod_eq_of_lt (a := c * _) (by omega), Nat.mod_eq_of_lt (a := d * _) (by omega),
    or_mul_two_pow (i := 8) (by omega), or_mul_two_pow (i := 16) (by omega), or_mul_two_pow (i := 24) (by omega)]

theorem u32le_u32bytes (w : UInt32) : u32le (u32bytes w) = w := by
  apply UInt32.toNat_inj.1
  have hw := w.toNat_lt
  have h0 : w.toNat % 256 < 256 := Nat.mod_lt _ (by decide)
  have h1 : w.toNat / 256 % 256 < 256 := Nat.mod_lt _ (by decide)
  have h2 : w.toNat / 65536 % 256 < 256 := Nat.mod_lt _ (by decide)
  have h3 : w.toNat / 16777216 < 256 := Nat.div_lt_of_lt_mul hw
  have lt32 : ∀ {x : Nat}, x < 256 → x % 2 ^ 32 = x := fun h => Nat.mod_eq_of_lt (Nat.lt_trans h (by decide))
  simp only [u32le, u32bytes, List.getD_cons_zero, List.getD_cons_succ, UInt32.toNat_or, UInt32.toNat_shiftLeft,
    Nat.toUInt32, UInt32.toNat_ofNat', lt32 h0, lt32 h1, lt32 h2, lt32 h3]
  refine (u32_of_bytes _ _ _ _ h0 h1 h2 h3).trans ?_
  omega

theorem u32bytes_lt (w : UInt32) : ∀ b ∈ u32bytes w, b < 256 := by
  have hw := w.toNat_lt
  intro b hb
  simp only [u32bytes, List.mem_cons, List.not_mem_nil, or_false] at hb
  rcases hb with rfl | rfl | rfl | rfl <;> omega

theorem u32bytes_length (w : UInt32) : (u32bytes w).length = 4 := rfl

def wordsBytes (ws : List UInt32) : List Nat := ws.flatMap u32bytes

theorem words_wordsBytes (ws : List UInt32) : words (wordsBytes ws) = some ws := by
  induction ws with
  | nil => rfl
  | cons w ws ih =>
    show words (_ :: _ :: _ :: _ :: wordsBytes ws) = _
    rw [words, ih, Option.map_some]
    exact congrArg (fun x => some (x :: ws)) (u32le_u32bytes w)

/-- the words of a PDF in file order: means, variances, then the voicing weight if there is one -/
def linearOf (p : PdfBits) : List UInt32 := p.means ++ p.varis ++ p.msd.toList

theorem linearOf_length (p : PdfBits) :
    (linearOf p).length = p.means.length + p.varis.length + (if p.msd.isSome then 1 else 0) := by
  obtain ⟨m, v, o⟩ := p
  cases o <;> simp [linearOf]
  omega

theorem fromLinear_linearOf (p : PdfBits) (h : p.means.length = p.varis.length) :
    fromLinear (linearOf p) = p := by
  cases p with
  | mk m v o =>
    simp only at h
    have hlen : (linearOf ⟨m, v, o⟩).length / 2 = m.length := by
      rw [linearOf_length]; dsimp only; split <;> omega
    unfold fromLinear
    simp only [hlen]
    simp only [linearOf, List.append_assoc]
    congr 1
    · exact List.take_left' rfl
    · rw [List.drop_left' rfl, List.take_left' h.symm]
    · rw [← List.append_assoc, List.getElem?_append_right (by simp; omega)]
      have e : m.length * 2 - (m ++ v).length = 0 := by simp; omega
      rw [e]; cases o <;> rfl

/-! ### the PDF block -/

private theorem flatMap_chunk {α β : Type} (f : α → List β) (L : Nat) (ps : List α)
    (h : ∀ p ∈ ps, (f p).length = L) (i : Nat) (hi : i < ps.length) :
    ((ps.flatMap f).drop (i * L)).take L = f ps[i] := by
  induction ps generalizing i with
  | nil => simp at hi
  | cons p ps ih =>
    have hp := h p (by simp)
    rw [List.flatMap_cons]
    cases i with
    | zero => simp only [Nat.zero_mul, List.drop_zero, List.getElem_cons_zero]; exact List.take_left' hp
    | succ i =>
      have e : (i + 1) * L = (f p).length + i * L := by rw [hp, Nat.add_mul, Nat.one_mul, Nat.add_comm]
      rw [e, ← List.drop_drop, List.drop_left' rfl, List.getElem_cons_succ]
      exact ih (fun q hq => h q (by simp [hq])) i (by simpa using hi)

def pdfBodyWords (pdfs : List (List PdfBits)) : List UInt32 := pdfs.flatMap fun ps => ps.flatMap linearOf

def pdfBlockWords (pdfs : List (List PdfBits)) : List UInt32 :=
  pdfs.map (fun ps => UInt32.ofNat ps.length) ++ pdfBodyWords pdfs

def pdfBlockBytes (pdfs : List (List PdfBits)) : List Nat := wordsBytes (pdfBlockWords pdfs)

theorem pdfGo_pdfBodyWords (pdfs : List (List PdfBits)) (pdfLen : Nat)
    (hlen : ∀ ps ∈ pdfs, ∀ p ∈ ps, (linearOf p).length = pdfLen ∧ p.means.length = p.varis.length) :
    parsePdfBlock.go pdfLen (pdfs.map List.length) (pdfBodyWords pdfs) = some pdfs := by
  induction pdfs with
  | nil => rfl
  | cons ps pdfs ih =>
    have hps := hlen ps (by simp)
    have hL : (ps.flatMap linearOf).length = ps.length * pdfLen :=
      length_flatten_map_const ps linearOf pdfLen fun p hp => (hps p hp).1
    have hb : pdfBodyWords (ps :: pdfs) = ps.flatMap linearOf ++ pdfBodyWords pdfs := rfl
    rw [List.map_cons, hb, parsePdfBlock.go]
    rw [if_neg (by rw [List.length_append, hL]; omega)]
    dsimp only
    rw [List.take_left' hL, List.drop_left' hL, ih fun qs hq => hlen qs (by simp [hq])]
    rw [Option.map_some]
    congr 2
    apply List.ext_getElem
    · simp
    · intro i h1 h2
      rw [List.getElem_map, List.getElem_range,
        flatMap_chunk linearOf pdfLen ps (fun p hp => (hps p hp).1) i h2]
      exact fromLinear_linearOf _ (hps _ (List.getElem_mem h2)).2

theorem parsePdfBlock_pdfBlockBytes (pdfs : List (List PdfBits)) (n : Nat) (msd : Bool)
    (hshape : ∀ ps ∈ pdfs, ∀ p ∈ ps, p.means.length = n ∧ p.varis.length = n ∧ p.msd.isSome = msd)
    (hcount : ∀ ps ∈ pdfs, ps.length < 2 ^ 32) :
    parsePdfBlock (pdfBlockBytes pdfs) pdfs.length (2 * n + (if msd then 1 else 0)) = some pdfs := by
  unfold parsePdfBlock
  rw [pdfBlockBytes, words_wordsBytes]
  dsimp only
  have hl : (pdfs.map fun ps => UInt32.ofNat ps.length).length = pdfs.length := by simp
  rw [if_neg (by rw [pdfBlockWords, List.length_append, hl]; omega)]
  rw [pdfBlockWords, List.take_left' hl, List.drop_left' hl, List.map_map]
  have hc : (pdfs.map ((fun x : UInt32 => x.toNat) ∘ fun ps => UInt32.ofNat ps.length)) = pdfs.map List.length := by
    apply List.map_congr_left
    intro ps hps
    have := hcount ps hps
    simp only [Function.comp, UInt32.toNat_ofNat']
    exact Nat.mod_eq_of_lt this
  rw [hc]
  apply pdfGo_pdfBodyWords
  intro ps hps p hp
  obtain ⟨h1, h2, h3⟩ := hshape ps hps p hp
  refine ⟨?_, by omega⟩
  rw [linearOf_length, h1, h2, h3]
  omega

/-- Non-vacuity: a block of two trees — two MSD PDFs of two means / two variances, then one. -/
def roundTripPdfs : List (List PdfBits) :=
  [[⟨[0x3F800000, 0xBF000000], [0x3DCCCCCD, 0x3E4CCCCD], some 0x3F666666⟩,
    ⟨[0x40490FDB, 0x00000001], [0x7F7FFFFF, 0x3F800000], some 0x00000000⟩],
   [⟨[0xC2C80000, 0x80000000], [0x3F000000, 0x3F000001], some 0x3F800000⟩]]

example : parsePdfBlock (pdfBlockBytes roundTripPdfs) 2 5 = some roundTripPdfs :=
  parsePdfBlock_pdfBlockBytes roundTripPdfs 2 true (by decide) (by decide)

/-- the first bytes of that block: the counts 2 and 1, then 1.0f32 = `00 00 80 3F` -/
example : (pdfBlockBytes roundTripPdfs).take 12 = [2, 0, 0, 0, 1, 0, 0, 0, 0, 0, 128, 63] := by decide +kernel
example : (pdfBlockBytes roundTripPdfs).length = 4 * (2 + 3 * 5) := by decide +kernel

/-- The degenerate PDF length 0 (`n = 0`, no voicing weight) is *not* an exception: every PDF is then the empty one, and
    the block is just the counts. -/
example : parsePdfBlock (pdfBlockBytes [[⟨[], [], none⟩, ⟨[], [], none⟩], []]) 2 0 =
    some [[⟨[], [], none⟩, ⟨[], [], none⟩], []] :=
  parsePdfBlock_pdfBlockBytes _ 0 false (by decide) (by decide)

/-- `fromLinear_linearOf` needs as many variances as means: the reader splits at half the length. -/
example : (fromLinear (linearOf ⟨[1], [], none⟩)).means = [] := by decide

/-! ### decimal numbers -/

theorem isDigit_iff {c : Nat} : isDigit c = true ↔ 48 ≤ c ∧ c ≤ 57 := by
  simp only [isDigit, Bool.and_eq_true, decide_eq_true_eq]

theorem isSpace_eq_false_iff {c : Nat} : isSpace c = false ↔ c ≠ 32 ∧ c ≠ 10 := by
  simp [isSpace]

/-- decimal digits of `n`, most significant first, as ASCII bytes -/
def natBytes (n : Nat) : List Nat :=
  if n < 10 then [48 + n] else natBytes (n / 10) ++ [48 + n % 10]
termination_by n
decreasing_by omega

theorem natBytes_digits (n : Nat) : ∀ c ∈ natBytes n, isDigit c = true := by
  have digit : ∀ d < 10, isDigit (48 + d) = true := fun d hd => by simp [isDigit]; omega
  induction n using Nat.strongRecOn with
  | _ n ih =>
    rw [natBytes]
    split
    · next h => exact fun c hc => List.mem_singleton.1 hc ▸ digit n h
    · exact fun c hc => (List.mem_append.1 hc).elim (ih (n / 10) (by omega) c)
        fun hc => List.mem_singleton.1 hc ▸ digit _ (Nat.mod_lt _ (by omega))

theorem natBytes_ne_nil (n : Nat) : natBytes n ≠ [] := by
  rw [natBytes]; split <;> simp

theorem natBytes_eq_cons (n : Nat) : ∃ c t, natBytes n = c :: t ∧ isDigit c = true := by
  obtain ⟨c, t, h⟩ := List.exists_cons_of_ne_nil (natBytes_ne_nil n)
  exact ⟨c, t, h, natBytes_digits n c (h ▸ List.mem_cons_self ..)⟩

theorem natBytes_range (n : Nat) : ∀ x ∈ natBytes n, 48 ≤ x ∧ x ≤ 57 :=
  fun x hx => isDigit_iff.1 (natBytes_digits n x hx)

theorem natBytes_value (n : Nat) : (natBytes n).foldl (fun a d => a * 10 + (d - 48)) 0 = n := by
  induction n using Nat.strongRecOn with
  | _ n ih =>
    rw [natBytes]
    split
    · simp
    · next h =>
      rw [List.foldl_append, ih (n / 10) (by omega)]
      simp only [List.foldl_cons, List.foldl_nil]
      omega

/-- the reader on a written number, whatever its size -/
theorem leadingNat_natBytes (n : Nat) :
    leadingNat (natBytes n) = some (if n < 2 ^ 64 then some n else none, []) := by
  have hd := natBytes_digits n
  have hv := natBytes_value n
  obtain ⟨c, t, hb, hc⟩ := natBytes_eq_cons n
  rw [hb] at hd hv ⊢
  unfold leadingNat
  simp only [hc, if_true]
  rw [List.takeWhile_eq_self_iff.2 hd, List.dropWhile_eq_nil_iff.2 hd, hv]

theorem headerNat_natBytes (guarded strict : Bool) (n : Nat) (h : n < 2 ^ 64) :
    headerNat guarded strict (natBytes n) = .ok n := by
  unfold headerNat
  rw [leadingNat_natBytes, if_pos h]
  simp

example : natBytes 0 = bytesOf "0" ∧ natBytes 1234567 = bytesOf "1234567" ∧
    natBytes 18446744073709551616 = bytesOf "18446744073709551616" := by decide +kernel

theorem natBytes_ne_dash (n : Nat) : ∀ x ∈ natBytes n, x ≠ 45 := by
  intro x hx
  have := natBytes_range n x hx
  omega

theorem headerPair_natBytes (guarded : Bool) (a b : Nat) (ha : a < 2 ^ 64) (hb : b < 2 ^ 64) :
    headerPair guarded (natBytes a ++ 45 :: natBytes b) = .ok (a, b) := by
  have hs : splitOn 45 (natBytes a ++ 45 :: natBytes b) = [natBytes a, natBytes b] := by
    have := splitBy_join (· = 45) 45 rfl (natBytes a) [natBytes b] (natBytes_ne_dash a)
      fun v hv => List.mem_singleton.1 hv ▸ natBytes_ne_dash b
    rwa [List.flatMap_singleton] at this
  unfold headerPair
  rw [hs]
  simp only [headerNat_natBytes _ _ _ ha, headerNat_natBytes _ _ _ hb]

/-! ### window rows -/

def IsTok (c : List Nat) : Prop := c ≠ [] ∧ ∀ x ∈ c, isSpace x = false

theorem tokens_spaced (w : List Nat) (cs : List (List Nat)) (hw : IsTok w) (h : ∀ c ∈ cs, IsTok c) :
    tokens (w ++ cs.flatMap fun c => 32 :: c) = w :: cs := by
  rw [tokens_eq, splitBy_join (isSpace · = true) 32 rfl w cs (fun x hx => Bool.eq_false_iff.1 (hw.2 x hx))
    fun c hc x hx => Bool.eq_false_iff.1 ((h c hc).2 x hx)]
  refine List.filter_eq_self.2 fun c hc => ?_
  have : c ≠ [] := (List.forall_mem_cons (p := (· ≠ [])).2 ⟨hw.1, fun c hc => (h c hc).1⟩) c hc
  cases c with
  | nil => exact absurd rfl this
  | cons _ _ => rfl

theorem natBytes_isTok (n : Nat) : IsTok (natBytes n) := by
  refine ⟨natBytes_ne_nil n, fun x hx => ?_⟩
  have := natBytes_range n x hx
  exact isSpace_eq_false_iff.2 ⟨by omega, by omega⟩

/-! #### what the text of a double can contain

`lowerByte`, `stripSign`, `fracSplit`, `expOk` are the pieces of the model's `isDoubleText`, by name (`isDoubleText_eq` is
`rfl`).  The lemmas `tokByte_of_*` go backwards through that grammar: what remains after a piece is `TokByte` byte by
byte, hence so is what the piece cut off in front of it. -/

def lowerByte (c : Nat) : Nat := if 65 ≤ c && c ≤ 90 then c + 32 else c
def stripSign (l : List Nat) : List Nat := match l with | 43 :: r => r | 45 :: r => r | r => r
def fracSplit (intPart r1 : List Nat) : Bool × List Nat :=
  match r1 with
  | 46 :: r =>
    let f := r.takeWhile isDigit
    (!intPart.isEmpty || !f.isEmpty, r.drop f.length)
  | r => (!intPart.isEmpty, r)
def expOk (r2 : List Nat) : Bool :=
  match r2 with
  | [] => true
  | e :: r =>
    if e = 101 then
      let r' := stripSign r
      !r'.isEmpty && r'.all isDigit
    else false

theorem isDoubleText_eq (t : List Nat) : isDoubleText t =
    (let u := stripSign (t.map lowerByte)
     if u == bytesOf "inf" || u == bytesOf "infinity" || u == bytesOf "nan" then true
     else
       (fracSplit (u.takeWhile isDigit) (u.drop (u.takeWhile isDigit).length)).1 &&
         expOk (fracSplit (u.takeWhile isDigit) (u.drop (u.takeWhile isDigit).length)).2) := by
  rfl

def TokByte (y : Nat) : Prop := y < 128 ∧ isSpace y = false

instance (y : Nat) : Decidable (TokByte y) := by unfold TokByte; infer_instance

theorem tokByte_of_digit {y : Nat} (h : isDigit y = true) : TokByte y := by
  have := isDigit_iff.1 h
  exact ⟨by omega, isSpace_eq_false_iff.2 ⟨by omega, by omega⟩⟩

theorem tokByte_of_lc {y : Nat} (h : TokByte (lowerByte y)) : TokByte y := by
  unfold lowerByte at h
  split at h
  · next hc =>
    simp only [Bool.and_eq_true, decide_eq_true_eq] at hc
    exact ⟨by omega, isSpace_eq_false_iff.2 ⟨by omega, by omega⟩⟩
  · exact h

theorem tokByte_of_stripSign {l : List Nat} (h : ∀ y ∈ stripSign l, TokByte y) : ∀ y ∈ l, TokByte y := by
  -- a stripped sign, `+` or `-`, is itself a `TokByte`
  have sign : ∀ (c : Nat) (r : List Nat), TokByte c → (∀ y ∈ r, TokByte y) → ∀ y ∈ c :: r, TokByte y :=
    fun c r hc hr => List.forall_mem_cons.2 ⟨hc, hr⟩
  unfold stripSign at h
  split at h
  · exact sign 43 _ (by decide) h
  · exact sign 45 _ (by decide) h
  · exact h

private theorem mem_takeWhile_or_drop {α : Type} (p : α → Bool) (l : List α) (y : α) (hy : y ∈ l) :
    p y = true ∨ y ∈ l.drop (l.takeWhile p).length := by
  induction l with
  | nil => simp at hy
  | cons a l ih =>
    rw [List.takeWhile_cons]
    split
    · next ha =>
      rcases List.mem_cons.1 hy with rfl | hy
      · left; exact ha
      · rcases ih hy with h | h
        · left; exact h
        · right; simpa using h
    · right; simpa using hy

theorem tokByte_of_digits_or_rest {l : List Nat} (h : ∀ y ∈ l.drop (l.takeWhile isDigit).length, TokByte y) :
    ∀ y ∈ l, TokByte y := by
  intro y hy
  rcases mem_takeWhile_or_drop isDigit l y hy with h1 | h1
  · exact tokByte_of_digit h1
  · exact h y h1

theorem tokByte_of_expOk {r2 : List Nat} (h : expOk r2 = true) : ∀ y ∈ r2, TokByte y := by
  unfold expOk at h
  split at h
  · simp
  · next e r =>
    split at h
    · next he =>
      subst he
      simp only [Bool.and_eq_true, List.all_eq_true] at h
      intro y hy
      rcases List.mem_cons.1 hy with rfl | hy
      · decide
      · exact tokByte_of_stripSign (fun z hz => tokByte_of_digit (h.2 z hz)) y hy
    · cases h

theorem tokByte_of_fracSplit {ip r1 : List Nat} (h : ∀ y ∈ (fracSplit ip r1).2, TokByte y) :
    ∀ y ∈ r1, TokByte y := by
  unfold fracSplit at h
  split at h
  · next r =>
    intro y hy
    rcases List.mem_cons.1 hy with rfl | hy
    · decide
    · exact tokByte_of_digits_or_rest h y hy
  · exact h

theorem bytesOf_inf : bytesOf "inf" = [105, 110, 102] := by decide +kernel
theorem bytesOf_infinity : bytesOf "infinity" = [105, 110, 102, 105, 110, 105, 116, 121] := by decide +kernel
theorem bytesOf_nan : bytesOf "nan" = [110, 97, 110] := by decide +kernel

theorem isDoubleText_bytes (t : List Nat) (h : isDoubleText t = true) : t ≠ [] ∧ ∀ y ∈ t, TokByte y := by
  refine ⟨?_, ?_⟩
  · rintro rfl
    revert h
    decide +kernel
  · rw [isDoubleText_eq] at h
    dsimp only at h
    have key : ∀ y ∈ stripSign (t.map lowerByte), TokByte y := by
      split at h
      · next hl =>
        simp only [Bool.or_eq_true, beq_iff_eq, bytesOf_inf, bytesOf_infinity, bytesOf_nan] at hl
        rcases hl with (hl | hl) | hl <;> rw [hl] <;> decide
      · simp only [Bool.and_eq_true] at h
        exact tokByte_of_digits_or_rest (tokByte_of_fracSplit (tokByte_of_expOk h.2))
    intro y hy
    exact tokByte_of_lc (tokByte_of_stripSign key (lowerByte y) (List.mem_map_of_mem hy))

/-! #### ASCII text and its bytes -/

/-- `ByteArray.toList` is the underlying list (the library defines it by a counting loop) -/
theorem byteArray_toList_loop (bs : ByteArray) (i : Nat) (r : List UInt8) :
    ByteArray.toList.loop bs i r = r.reverse ++ bs.data.toList.drop i := by
  fun_induction ByteArray.toList.loop bs i r with
  | case1 i r h ih =>
    rw [ih]
    obtain ⟨⟨l⟩⟩ := bs
    simp only [ByteArray.size, Array.size] at h
    simp only [ByteArray.get!]
    rw [List.drop_eq_getElem_cons h]
    have : (⟨l⟩ : Array UInt8)[i]! = l[i] := by
      rw [getElem!_pos (⟨l⟩ : Array UInt8) i (by simpa using h)]; rfl
    rw [this]; simp
  | case2 i r h =>
    obtain ⟨⟨l⟩⟩ := bs
    simp only [ByteArray.size, Array.size] at h
    simp [List.drop_eq_nil_of_le (Nat.le_of_not_gt h)]

theorem byteArray_toList (bs : ByteArray) : bs.toList = bs.data.toList := by
  simp [ByteArray.toList, byteArray_toList_loop]

theorem bytesOf_ofList (l : List Char) :
    bytesOf (String.ofList l) = (l.flatMap String.utf8EncodeChar).map (·.toNat) := by
  rw [bytesOf, String.toUTF8, String.toByteArray_ofList, byteArray_toList, List.utf8Encode,
    List.toList_data_toByteArray]

theorem bytesOf_ofList_ascii (l : List Char) (h : ∀ c ∈ l, c.toNat < 128) :
    bytesOf (String.ofList l) = l.map Char.toNat := by
  rw [bytesOf_ofList]
  induction l with
  | nil => rfl
  | cons c l ih =>
    have hc := h c (by simp)
    have h1 : c.utf8Size = 1 := Char.utf8Size_eq_one_iff.2 (by
      rw [UInt32.le_iff_toNat_le]; have : c.val.toNat = c.toNat := rfl
      rw [this]; simp; omega)
    rw [List.flatMap_cons, String.utf8EncodeChar_eq_singleton h1, List.map_append, ih fun x hx => h x (by simp [hx])]
    simp only [List.map_cons, List.map_nil, List.singleton_append, List.cons.injEq, and_true]
    have : c.val.toNat = c.toNat := rfl
    rw [UInt32.toNat_toUInt8, this]
    omega

theorem strOf_bytesOf (s : String) (h : ∀ c ∈ s.toList, c.toNat < 128) : strOf (bytesOf s) = s := by
  conv_lhs => rw [← String.ofList_toList (s := s)]
  rw [bytesOf_ofList_ascii _ h, strOf, toChars, List.map_map]
  rw [map_eq_self fun c _ => by simp, String.ofList_toList]

theorem bytesOf_strOf (b : List Nat) (h : ∀ x ∈ b, x < 128) : bytesOf (strOf b) = b := by
  have hval : ∀ x ∈ b, (Char.ofNat x).toNat = x := by
    intro x hx
    have := h x hx
    have hv : x.isValidChar := Or.inl (by omega)
    unfold Char.ofNat
    rw [dif_pos hv]
    rfl
  rw [strOf, toChars, bytesOf_ofList_ascii]
  · rw [List.map_map]
    exact map_eq_self hval
  · intro c hc
    obtain ⟨x, hx, rfl⟩ := List.mem_map.1 hc
    rw [hval x hx]; exact h x hx

theorem ascii_of_utf8EncodeChar (c : Char) (h : ∀ y ∈ String.utf8EncodeChar c, y.toNat < 128) : c.toNat < 128 := by
  have hv : c.val.toNat = c.toNat := rfl
  by_contra hc
  -- the last byte of a multi-byte encoding is a continuation byte, `0x80 + …`
  have hlast : UInt8.ofNat (c.val.toNat % 64 + 128) ∈ String.utf8EncodeChar c := by
    unfold String.utf8EncodeChar
    dsimp only
    rw [if_neg (by omega)]
    split
    · exact .tail _ (.head _)
    · split
      · exact .tail _ (.tail _ (.head _))
      · exact .tail _ (.tail _ (.tail _ (.head _)))
  have := h _ hlast
  rw [UInt8.toNat_ofNat'] at this
  omega

theorem ascii_of_bytesOf (s : String) (h : ∀ y ∈ bytesOf s, y < 128) : ∀ c ∈ s.toList, c.toNat < 128 := by
  intro c hc
  apply ascii_of_utf8EncodeChar
  intro y hy
  apply h
  rw [← String.ofList_toList (s := s), bytesOf_ofList]
  exact List.mem_map.2 ⟨y, List.mem_flatMap.2 ⟨c, hc, hy⟩, rfl⟩

/-- a window row on byte lists: the decimal count, then a space and the text of each coefficient -/
def windowRowOfBytes (cs : List (List Nat)) : List Nat := natBytes cs.length ++ cs.flatMap fun c => 32 :: c

/-- the same on strings -/
def windowRowBytes (cs : List String) : List Nat := windowRowOfBytes (cs.map bytesOf)

theorem windowRowOfBytes_head (cs : List (List Nat)) :
    ((windowRowOfBytes cs).head?.map isDigit).getD false = true := by
  obtain ⟨c, t, hb, hc⟩ := natBytes_eq_cons cs.length
  rw [windowRowOfBytes, hb]
  simp [hc]

theorem isTok_of_isDoubleText {c : List Nat} (h : isDoubleText c = true) : IsTok c :=
  ⟨(isDoubleText_bytes c h).1, fun x hx => ((isDoubleText_bytes c h).2 x hx).2⟩

/-- the count is a `usize`: a row of `2^64` coefficients or more is refused (it cannot be written in a real file) -/
theorem parseWindow_windowRowOfBytes (cs : List (List Nat)) (h : ∀ c ∈ cs, isDoubleText c = true) :
    parseWindow (windowRowOfBytes cs) = if cs.length < 2 ^ 64 then some (cs.map strOf) else none := by
  unfold parseWindow
  rw [windowRowOfBytes_head]
  simp only [Bool.not_true, Bool.false_eq_true, if_false]
  rw [windowRowOfBytes, tokens_spaced _ cs (natBytes_isTok _) fun c hc => isTok_of_isDoubleText (h c hc)]
  by_cases hn : cs.length < 2 ^ 64
  · simp only [leadingNat_natBytes, if_pos hn]
    simp [List.all_eq_true.2 h]
  · simp only [leadingNat_natBytes, if_neg hn]

theorem parseWindow_windowRowOfBytes_overflow (cs : List (List Nat)) (h : ∀ c ∈ cs, isDoubleText c = true)
    (hn : 2 ^ 64 ≤ cs.length) : parseWindow (windowRowOfBytes cs) = none := by
  rw [parseWindow_windowRowOfBytes cs h, if_neg (Nat.not_lt.2 hn)]

theorem parseWindow_windowRowBytes (cs : List String) (h : ∀ c ∈ cs, isDoubleText (bytesOf c) = true)
    (hn : cs.length < 2 ^ 64) : parseWindow (windowRowBytes cs) = some cs := by
  rw [windowRowBytes, parseWindow_windowRowOfBytes _ (List.forall_mem_map.2 h), if_pos (by simpa using hn), List.map_map]
  congr 1
  exact map_eq_self fun c hc =>
    strOf_bytesOf c (ascii_of_bytesOf c fun y hy => ((isDoubleText_bytes _ (h c hc)).2 y hy).1)

/-- Non-vacuity: the delta window of the shipped voices, and the static one. -/
example : windowRowBytes ["-0.5", "0.0", "0.5"] = bytesOf "3 -0.5 0.0 0.5" := by decide +kernel
example : parseWindow (bytesOf "3 -0.5 0.0 0.5") = some ["-0.5", "0.0", "0.5"] := by decide +kernel
example : parseWindow (windowRowBytes ["1.0"]) = some ["1.0"] :=
  parseWindow_windowRowBytes _ (by decide +kernel) (by decide)
example : parseWindow (windowRowBytes []) = some [] := parseWindow_windowRowBytes _ (by simp) (by decide)

/-- The hypothesis is the reader's own check: a coefficient that is not the text of a double is refused. -/
example : parseWindow (windowRowBytes ["1.0", "x"]) = none := by decide +kernel

end Jb.Hts
