/-
  The `compatibleVoice` hypothesis of the from-the-bytes theorem is what the library's own `VoiceSet::new` establishes:
  if the model of `VoiceSet::new` (`voiceSetNew`, C19) accepts the voices' metadata, every voice is compatible with the first.
-/
import Jb.Model.Supported
import Jb.Model.Weights
import Jb.Proofs.Weights

namespace Jb.Hts

/-- the global metadata `VoiceSet::new` compares -/
structure GMeta where
  version : String
  sr : Nat
  fp : Nat
  nstates : Nat
  nstreams : Nat
  streamType : List String
  fmt : String
  fver : String
  gvOff : List (List Char)
  deriving DecidableEq

/-- the per-stream metadata `VoiceSet::new` compares -/
structure SMeta where
  veclen : Nat
  nwin : Nat
  isMsd : Bool
  useGv : Bool
  option : List String
  deriving DecidableEq

def gmetaOf (v : ParsedVoice) : GMeta :=
  ⟨v.global.version, v.global.sr, v.global.fp, v.global.nstates, v.global.nstreams, v.global.streamType,
   v.global.fmt, v.global.fver, v.global.gvOff⟩
def smetaOf (s : ParsedStream) : SMeta := ⟨s.info.veclen, s.info.nwin, s.info.isMsd, s.info.useGv, s.info.option⟩
def metaOf (v : ParsedVoice) : GMeta × List SMeta := (gmetaOf v, v.streams.map smetaOf)

theorem streamCompatible_of_smeta (a b : ParsedStream) (h : smetaOf a = smetaOf b) : streamCompatible a b = true := by
  unfold smetaOf at h
  simp only [SMeta.mk.injEq] at h
  obtain ⟨h1, h2, h3, h4, -⟩ := h
  simp [streamCompatible, h1, h2, h3, h4]

theorem streams_compatible_of_smeta_eq (l₁ l₂ : List ParsedStream) (h : l₁.map smetaOf = l₂.map smetaOf) :
    (l₁.zip l₂).all (fun p => streamCompatible p.1 p.2) = true := by
  induction l₁ generalizing l₂ with
  | nil => simp
  | cons a l₁ ih =>
    cases l₂ with
    | nil => simp
    | cons b l₂ =>
      simp only [List.map_cons, List.cons.injEq] at h
      simp only [List.zip_cons_cons, List.all_cons, Bool.and_eq_true]
      exact ⟨streamCompatible_of_smeta a b h.1, ih l₂ h.2⟩

theorem compatible_of_meta_eq (v0 v : ParsedVoice) (h : metaOf v0 = metaOf v) : compatibleVoice v0 v = true := by
  unfold metaOf at h
  simp only [Prod.mk.injEq] at h
  obtain ⟨hg, hs⟩ := h
  unfold gmetaOf at hg
  simp only [GMeta.mk.injEq] at hg
  obtain ⟨-, -, -, h4, h5, -⟩ := hg
  have hl : v0.streams.length = v.streams.length := by simpa using congrArg List.length hs
  simp [compatibleVoice, h4, h5, hl, streams_compatible_of_smeta_eq _ _ hs]

theorem voiceSetNew_compatible (voices : List ParsedVoice) (v0 : ParsedVoice) (hv0 : voices.head? = some v0)
    (h : voiceSetNew (voices.map metaOf) = Except.ok ()) : ∀ v ∈ voices, compatibleVoice v0 v = true := by
  cases voices with
  | nil => simp at hv0
  | cons first rest =>
    simp only [List.head?_cons, Option.some.injEq] at hv0
    subst hv0
    intro v hv
    rcases List.mem_cons.1 hv with rfl | hv
    · exact compatible_of_meta_eq _ _ rfl
    · rw [List.map_cons, voiceSetNew_cons] at h
      split at h
      · rename_i hall
        exact compatible_of_meta_eq _ _ (hall _ (List.mem_map.2 ⟨v, hv, rfl⟩)).symm
      · cases h

end Jb.Hts
