/-
  `calc_gv` and `conv_gv` (`Jb/Model/Mlpg.lean`: `calcGv`, `convGv`). An affine map of the eligible frames moves
  their mean the same way and scales their variance by the square of the slope (`calcGv_affine`). With the slope
  `√(target / variance)` this says that `conv_gv` restores exactly the target variance and keeps the mean
  (`convGv_variance`); with slope 1 that a constant added to every frame moves the mean, leaves the variance and
  commutes with `conv_gv` (used for the half-tone shift in `Jb/Proofs/GvShift.lean`).
-/
import Jb.Proofs.Field
import Jb.Proofs.Mask
import Mathlib.Tactic.Ring

namespace Jb

section
variable {K : Type} [Field K]

theorem calcGv_fst (par : List K) (sw : List Bool) (n : Nat) :
    (calcGv par sw n).1 = (filterBy par sw).sum / (n : K) := by
  simp only [calcGv, sumS_eq_sum]

theorem calcGv_snd (par : List K) (sw : List Bool) (n : Nat) :
    (calcGv par sw n).2 =
      ((filterBy par sw).map fun p =>
        (p - (calcGv par sw n).1) * (p - (calcGv par sw n).1)).sum / (n : K) := by
  simp only [calcGv, sumS_eq_sum]

/-- an affine map `p ↦ a·p + b` of the eligible frames maps their mean the same way and scales their variance by `a²` -/
theorem calcGv_affine (par par' : List K) (sw : List Bool) (n : Nat) (a b : K) (hn : (n : K) ≠ 0)
    (hlen : (filterBy par sw).length = n) (h : filterBy par' sw = (filterBy par sw).map fun p => a * p + b) :
    calcGv par' sw n = (a * (calcGv par sw n).1 + b, a * a * (calcGv par sw n).2) := by
  have hsum : ∀ l : List K, (l.map fun p => a * p + b).sum = a * l.sum + (l.length : K) * b := fun l => by
    induction l with
    | nil => simp
    | cons x l ih => simp only [List.map_cons, List.sum_cons, List.length_cons, ih]; push_cast; ring
  have hfst : (calcGv par' sw n).1 = a * (calcGv par sw n).1 + b := by
    rw [calcGv_fst, calcGv_fst, h, hsum, hlen, add_div, mul_div_assoc, mul_div_cancel_left₀ _ hn]
  have hsq : ∀ (l : List K) (m : K), ((l.map fun p => a * p + b).map fun q => (q - (a * m + b)) * (q - (a * m + b))).sum =
      a * a * (l.map fun p => (p - m) * (p - m)).sum := fun l m => by
    induction l with
    | nil => simp
    | cons x l ih => simp only [List.map_cons, List.sum_cons, ih]; ring
  refine Prod.ext hfst ?_
  rw [calcGv_snd, hfst, h, hsq, calcGv_snd par, mul_div_assoc]

/-- the per-frame map of `conv_gv` with the ratio and mean made explicit -/
def convGvFrame (r m : K) (x : K × Bool) : K := if x.2 then r * (x.1 - m) + m else x.1

theorem convGvFrame_true (r m p : K) : convGvFrame r m (p, true) = r * (p - m) + m := rfl

theorem convGvFrame_false (r m p : K) : convGvFrame r m (p, false) = p := rfl

variable [LinearOrder K] [Transc K]

theorem convGv_def (par : List K) (sw : List Bool) (gvLen : Nat) (gm : K) :
    convGv par sw gvLen gm =
      if ¬ (0 < (calcGv par sw gvLen).2) then par
      else (par.zip sw).map
        (convGvFrame (Transc.sqrt (gm / (calcGv par sw gvLen).2)) (calcGv par sw gvLen).1) := rfl

theorem convGv_of_not_pos (par : List K) (sw : List Bool) (gvLen : Nat) (gm : K)
    (h : ¬ (0 < (calcGv par sw gvLen).2)) : convGv par sw gvLen gm = par := by
  rw [convGv_def, if_pos h]

theorem convGv_eq (par : List K) (sw : List Bool) (gvLen : Nat) (gm : K)
    (h : 0 < (calcGv par sw gvLen).2) :
    convGv par sw gvLen gm =
      (par.zip sw).map (convGvFrame (Transc.sqrt (gm / (calcGv par sw gvLen).2)) (calcGv par sw gvLen).1) := by
  rw [convGv_def, if_neg (not_not.mpr h)]

/-- `conv_gv` either leaves `par` alone (no positive variance) or zips it with the switch -/
theorem convGv_length_bounds (par : List K) (sw : List Bool) (gvLen : Nat) (gm : K) :
    min par.length sw.length ≤ (convGv par sw gvLen gm).length ∧
      (convGv par sw gvLen gm).length ≤ par.length := by
  rw [convGv_def]
  split_ifs
  · rw [List.length_map, List.length_zip]
    exact ⟨le_rfl, Nat.min_le_left _ _⟩
  · exact ⟨Nat.min_le_left _ _, le_rfl⟩

theorem convGv_length_eq (par : List K) (sw : List Bool) (gvLen : Nat) (gm : K) (h : par.length = sw.length) :
    (convGv par sw gvLen gm).length = par.length := by
  obtain ⟨h1, h2⟩ := convGv_length_bounds par sw gvLen gm
  rw [← h, Nat.min_self] at h1
  exact Nat.le_antisymm h2 h1

/-! ### a constant added to every frame: the mean moves with it, the variance does not, `conv_gv` commutes -/

variable [IsStrictOrderedRing K]

omit [Transc K] in
theorem calcGv_map_add (par : List K) (sw : List Bool) (gvLen : Nat) (h : K)
    (hlen : sw.length = par.length) (hg : gvLen = (sw.filter id).length) (hpos : 0 < gvLen) :
    calcGv (par.map (· + h)) sw gvLen = ((calcGv par sw gvLen).1 + h, (calcGv par sw gvLen).2) := by
  rw [calcGv_affine par _ sw gvLen 1 h (ne_of_gt (Nat.cast_pos.mpr hpos)) (hg ▸ filterBy_length par sw hlen.symm)
    ((filterBy_map _ _ _).trans (by simp only [one_mul]))]
  simp only [one_mul]

theorem convGv_map_add (par : List K) (sw : List Bool) (gvLen : Nat) (gm h : K)
    (hlen : sw.length = par.length) (hg : gvLen = (sw.filter id).length) (hpos : 0 < gvLen) :
    convGv (par.map (· + h)) sw gvLen gm = (convGv par sw gvLen gm).map (· + h) := by
  rw [convGv_def, convGv_def par, calcGv_map_add par sw gvLen h hlen hg hpos]
  simp only
  split_ifs with hv
  · rw [List.zip_map_left, List.map_map, List.map_map]
    apply List.map_congr_left
    rintro ⟨p, s⟩ _
    cases s
    · simp only [Function.comp_apply, Prod.map_apply, id_eq, convGvFrame_false]
    · simp only [Function.comp_apply, Prod.map_apply, id_eq, convGvFrame_true, add_sub_add_right_eq_sub, add_assoc]
  · rfl

end

/-! `convGv_length_eq` again, and the target variance, over the model's scalar context without `FloorRing` -/

section
variable {K : Type} [Field K] [LinearOrder K] [IsStrictOrderedRing K] [Transc K] [Consts K] [MlpgConsts K]
set_option linter.unusedSectionVars false

theorem convGv_length' (par : List K) (sw : List Bool) (gvLen : Nat) (gm : K) (hlen : par.length = sw.length) :
    (convGv par sw gvLen gm).length = par.length :=
  convGv_length_eq par sw gvLen gm hlen

/-- **`conv_gv` hits the target**: afterwards the mean over the eligible frames is unchanged and their variance is
    exactly the target (`hsqrt`: the square root squares back on non-negatives). -/
theorem convGv_variance (par : List K) (sw : List Bool) (gm : K)
    (hlen : par.length = sw.length) (hpos : 0 < (sw.filter id).length)
    (hsqrt : ∀ x : K, 0 ≤ x → Transc.sqrt x * Transc.sqrt x = x)
    (hv : 0 < (calcGv par sw (sw.filter id).length).2)
    (hr : 0 ≤ gm / (calcGv par sw (sw.filter id).length).2) :
    calcGv (convGv par sw (sw.filter id).length gm) sw (sw.filter id).length =
      ((calcGv par sw (sw.filter id).length).1, gm) := by
  have hel := filterBy_length par sw hlen
  generalize (sw.filter id).length = N at *
  generalize hr' : Transc.sqrt (gm / (calcGv par sw N).2) = r at *
  -- on the eligible frames `conv_gv` is `p ↦ r·(p − m) + m = r·p + (m − r·m)`
  have hfb : filterBy (convGv par sw N gm) sw =
      (filterBy par sw).map fun p => r * p + ((calcGv par sw N).1 - r * (calcGv par sw N).1) := by
    rw [convGv_eq _ _ _ _ hv, hr', filterBy_zip_map]
    exact List.map_congr_left fun p _ => by rw [convGvFrame_true]; ring
  rw [calcGv_affine par _ sw N r _ (ne_of_gt (Nat.cast_pos.mpr hpos)) hel hfb, ← hr', hsqrt _ hr,
    div_mul_cancel₀ _ (ne_of_gt hv), add_sub_cancel]

end

/-! `convGv_length_bounds`, `calcGv_map_add`, `convGv_map_add` again over the scalar context of `Jb/Props` -/

variable {K : Type} [Field K] [LinearOrder K] [IsStrictOrderedRing K] [FloorRing K]
  [Transc K] [Consts K] [MlpgConsts K]
set_option linter.unusedSectionVars false

theorem convGv_length (par : List K) (sw : List Bool) (gvLen : Nat) (gm : K) :
    min par.length sw.length ≤ (convGv par sw gvLen gm).length ∧
      (convGv par sw gvLen gm).length ≤ par.length :=
  convGv_length_bounds par sw gvLen gm

theorem calcGv_shift (par : List K) (sw : List Bool) (gvLen : Nat) (h : K)
    (hlen : sw.length = par.length) (hg : gvLen = (sw.filter id).length) (hpos : 0 < gvLen) :
    calcGv (par.map (· + h)) sw gvLen = ((calcGv par sw gvLen).1 + h, (calcGv par sw gvLen).2) :=
  calcGv_map_add par sw gvLen h hlen hg hpos

theorem convGv_shift (par : List K) (sw : List Bool) (gvLen : Nat) (gm h : K)
    (hlen : sw.length = par.length) (hg : gvLen = (sw.filter id).length) (hpos : 0 < gvLen) :
    convGv (par.map (· + h)) sw gvLen gm = (convGv par sw gvLen gm).map (· + h) :=
  convGv_map_add par sw gvLen gm h hlen hg hpos

end Jb
