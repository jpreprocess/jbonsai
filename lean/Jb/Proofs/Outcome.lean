/-
  `Outcome` as a monad with a panic value: the equations of `bind` and `map`, inversion of a successful
  `bind`, and `Sat P x` — "`x` does not panic, and what it returns satisfies `P`" — with its rule for `bind`.
-/
import Jb.Model.Scalar

namespace Jb.Outcome
variable {ε α β : Type}

@[simp] theorem bind_ok (a : α) (f : α → Outcome ε β) : (ok a).bind f = f a := rfl
@[simp] theorem bind_err (e : ε) (f : α → Outcome ε β) : (err e).bind f = err e := rfl
@[simp] theorem bind_panic (s : String) (f : α → Outcome ε β) : (panic s).bind f = panic s := rfl
@[simp] theorem map_ok (f : α → β) (a : α) : (ok a : Outcome ε α).map f = ok (f a) := rfl
@[simp] theorem map_err (f : α → β) (e : ε) : (err e : Outcome ε α).map f = err e := rfl
@[simp] theorem map_panic (f : α → β) (s : String) : (panic s : Outcome ε α).map f = panic s := rfl

theorem bind_eq_ok_iff {x : Outcome ε α} {f : α → Outcome ε β} {b : β} :
    x.bind f = ok b ↔ ∃ a, x = ok a ∧ f a = ok b := by
  cases x <;> simp

theorem map_eq_ok_iff {x : Outcome ε α} {f : α → β} {b : β} :
    x.map f = ok b ↔ ∃ a, x = ok a ∧ f a = b := by
  cases x <;> simp

theorem bind_congr {x : Outcome ε α} {f g : α → Outcome ε β} (h : ∀ a, x = ok a → f a = g a) :
    x.bind f = x.bind g := by
  cases x with
  | ok a => exact h a rfl
  | err e => rfl
  | panic s => rfl

theorem map_bind {γ : Type} (x : Outcome ε α) (f : α → Outcome ε β) (g : β → γ) :
    (x.bind f).map g = x.bind fun a => (f a).map g := by
  cases x <;> rfl

def Sat (P : α → Prop) : Outcome ε α → Prop
  | ok a => P a
  | err _ => True
  | panic _ => False

theorem sat_iff {P : α → Prop} {x : Outcome ε α} :
    Sat P x ↔ (∀ s, x ≠ panic s) ∧ ∀ a, x = ok a → P a := by
  cases x <;> simp [Sat]

theorem Sat.mono {P Q : α → Prop} {x : Outcome ε α} (hx : Sat P x) (h : ∀ a, P a → Q a) : Sat Q x := by
  cases x with
  | ok a => exact h a hx
  | err e => trivial
  | panic s => exact hx

theorem Sat.bind {P : α → Prop} {Q : β → Prop} {x : Outcome ε α} {f : α → Outcome ε β}
    (hx : Sat P x) (hf : ∀ a, P a → Sat Q (f a)) : Sat Q (x.bind f) := by
  cases x with
  | ok a => exact hf a hx
  | err e => trivial
  | panic s => exact hx

theorem Sat.ite {c : Prop} [Decidable c] {P : α → Prop} {x y : Outcome ε α}
    (hx : c → Sat P x) (hy : ¬ c → Sat P y) : Sat P (if c then x else y) := by
  split
  · exact hx ‹_›
  · exact hy ‹_›

end Jb.Outcome
