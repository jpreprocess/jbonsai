/-
  C06: the identity behind `mc2b`/`b2mc` at the level of signals.  With `Φ_m` the warped basis of the MLSA filter and
  `z̃⁻¹` the first-order all-pass,   b₀ + Σ_{m≥1} b_m Φ_m(z) = Σ_{m≥0} c_m z̃^{-m}   where `c = b2mc α b`
  (equivalently `b = mc2b α c`).  So the exponent that the MLSA filter approximates, `F₁ + F₂ = Σ_{m≥1} b_m Φ_m`, plus
  the log-gain `b₀`, is the mel-cepstral polynomial in the all-pass — which on the unit circle is `Σ c_m e^{-j m ω̃}`.
  Key step: `Φ₁ = z̃⁻¹ + α`, i.e. `onePoleRun α (delay1 u) = allpassRun α u + α·u`, and all operators are linear.
-/
import Jb.Proofs.Signal
import Jb.Proofs.Cepstrum

namespace Jb

variable {K : Type} [Field K]

def ladd (a b : List K) : List K := List.zipWith (· + ·) a b

/-! ### `Φ_{m+1} = z̃^{-(m+1)} + α z̃^{-m}` -/

theorem allpassFrom_lin {a b alpha : K} {us vs ws : List K} (h : Lin a b us vs ws) {p q r p' q' r' : K}
    (hr : r = a * p + b * q) (hr' : r' = a * p' + b * q') :
    Lin a b (allpassFrom alpha p p' us) (allpassFrom alpha q q' vs) (allpassFrom alpha r r' ws) := by
  induction h generalizing p q r p' q' r' with
  | nil => exact .nil
  | cons hx _ ih => subst hr hr' hx; exact .cons (by ring) (ih rfl (by ring))

/-- the one-pole on the delayed signal is the all-pass plus `α` times the signal (from-state form) -/
theorem onePole_delay (alpha : K) (us : List K) (up yp w : K) (hw : w = yp + alpha * up) :
    Lin 1 alpha (allpassFrom alpha up yp us) us (onePoleFrom alpha w ((up :: us).take us.length)) := by
  induction us generalizing up yp w with
  | nil => exact .nil
  | cons u us ih =>
    simp only [List.length_cons, List.take_succ_cons, onePoleFrom, allpassFrom]
    exact .cons (by rw [hw]; ring) (ih _ _ _ (by rw [hw]; ring))

theorem warpBasis_succ (alpha : K) (us : List K) (m : Nat) :
    Lin 1 alpha (allpassPow alpha (m + 1) us) (allpassPow alpha m us) (warpBasis alpha us (m + 1)) := by
  induction m with
  | zero => exact onePole_delay alpha us 0 0 0 (by ring)
  | succ m ih => exact allpassFrom_lin ih (by ring) (by ring)

theorem warpBasis_succ_getD (alpha : K) (us : List K) (m n : Nat) :
    (warpBasis alpha us (m + 1)).getD n 0 =
      (allpassPow alpha (m + 1) us).getD n 0 + alpha * (allpassPow alpha m us).getD n 0 := by
  rw [(warpBasis_succ alpha us m).getD, one_mul]

/-- the telescoping sum, abstractly -/
theorem sum_shift_telescope (alpha : K) (b A : Nat → K) (N : Nat) :
    b 0 * A 0 + (Finset.Ico 1 (N + 1)).sum (fun m => b m * (A m + alpha * A (m - 1))) =
      (Finset.range (N + 1)).sum (fun m => (b m + alpha * b (m + 1)) * A m) - alpha * b (N + 1) * A N := by
  induction N with
  | zero => simp only [Finset.Ico_self, Finset.sum_empty, add_zero, zero_add, Finset.sum_range_one]; ring
  | succ N ih =>
    rw [Finset.sum_Ico_succ_top (by omega), Finset.sum_range_succ _ (N + 1), ← add_assoc, ih]
    simp only [Nat.add_sub_cancel]
    ring

/-- **`b₀ + Σ_{m≥1} b_m Φ_m = Σ_m c_m z̃^{-m}`, `c = b2mc α b`** -/
theorem warp_basis_identity (alpha : K) (b : List K) (us : List K) (n : Nat) :
    b.getD 0 0 * us.getD n 0 +
        (Finset.Ico 1 b.length).sum (fun m => b.getD m 0 * (warpBasis alpha us m).getD n 0) =
      (Finset.range b.length).sum fun m => (b2mc alpha b).getD m 0 * (allpassPow alpha m us).getD n 0 := by
  cases hL : b.length with
  | zero =>
    obtain rfl : b = [] := List.eq_nil_of_length_eq_zero hL
    simp
  | succ N =>
    have h := sum_shift_telescope alpha (fun m => b.getD m 0) (fun m => (allpassPow alpha m us).getD n 0) N
    have hb : b.getD (N + 1) 0 = 0 := List.getD_eq_default _ _ (by omega)
    simp only [hb, mul_zero, zero_mul, sub_zero] at h
    have hc : (Finset.range (N + 1)).sum (fun m => (b2mc alpha b).getD m 0 * (allpassPow alpha m us).getD n 0) =
        (Finset.range (N + 1)).sum fun m => (b.getD m 0 + alpha * b.getD (m + 1) 0) * (allpassPow alpha m us).getD n 0 :=
      Finset.sum_congr rfl fun m hm => by rw [b2mc_getD alpha b m (by rw [hL]; exact Finset.mem_range.1 hm)]
    rw [hc, ← h]
    refine congrArg _ (Finset.sum_congr rfl fun m hm => ?_)
    obtain ⟨k, rfl⟩ : ∃ k, m = k + 1 := ⟨m - 1, by have := (Finset.mem_Ico.1 hm).1; omega⟩
    rw [warpBasis_succ_getD, Nat.add_sub_cancel]

theorem basic1_getD (alpha : K) (b us : List K) (n : Nat) :
    (basic1 alpha b us).getD n 0 = b.getD 1 0 * (warpBasis alpha us 1).getD n 0 :=
  getD_map_zero _ (mul_zero _) _ n

/-! ### over the scalar context of `Jb/Props` -/

section
variable [LinearOrder K] [IsStrictOrderedRing K] [Transc K] [Consts K]
set_option linter.unusedSectionVars false

theorem ladd_length (a b : List K) (h : a.length = b.length) : (ladd a b).length = a.length := by
  simp [ladd, h]

theorem allpassPow_succ (alpha : K) (m : Nat) (us : List K) :
    allpassPow alpha (m + 1) us = allpassRun alpha (allpassPow alpha m us) := rfl

/-- `Φ₁ = z̃⁻¹ + α` -/
theorem phi1_eq_allpass_add (alpha : K) (us : List K) (n : Nat) :
    (warpBasis alpha us 1).getD n 0 = (allpassRun alpha us).getD n 0 + alpha * us.getD n 0 :=
  warpBasis_succ_getD alpha us 0 n

/-- `warp_basis_identity` read from the mel-cepstrum: `b = mc2b α c` -/
theorem warp_basis_identity_mc2b (alpha : K) (c : List K) (us : List K) (n : Nat) :
    (mc2b alpha c).getD 0 0 * us.getD n 0 +
        (Finset.Ico 1 c.length).sum (fun m => (mc2b alpha c).getD m 0 * (warpBasis alpha us m).getD n 0) =
      (Finset.range c.length).sum fun m => c.getD m 0 * (allpassPow alpha m us).getD n 0 := by
  have h := warp_basis_identity alpha (mc2b alpha c) us n
  rwa [mc2b_length, b2mc_mc2b] at h

end

end Jb
