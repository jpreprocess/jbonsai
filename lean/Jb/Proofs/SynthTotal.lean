/-
  C01 from the parsed voices: `Synth.synthesize` — tree selection and voice interpolation
  (`Models::{duration, stream, gv}`), `Engine::load`, any setter history, `Engine::synthesize` — is total and
  frame-exact on every well-formed voice set (`VoicesWF voices iw`, a statement about the parsed voices and the weight
  vectors only), for every label sequence. The route: under `VoicesWF` every `blend` of what the voices select exists
  and has the first voice's shape (`blend_map_ok`), so the stage inputs exist and are `EngineWF` (`engineIn_wf`), and
  `engineSynthesize_total` applies. Why each clause of `VoicesWF` is there is said at the clause. `Tiny` holds a voice
  that satisfies `VoicesWF` and one that shows its shape clause is needed.
-/
import Jb.Proofs.Total
import Jb.Proofs.SynthLemmas
import Jb.Proofs.Hts
import Jb.Proofs.Weights

set_option linter.unusedSectionVars false

namespace Jb

variable {K : Type} [Field K] [LinearOrder K] [IsStrictOrderedRing K] [FloorRing K]
  [Transc K] [Consts K] [MlpgConsts K] [FromFile K]

namespace Synth
open Hts Outcome

/-! ### `VoiceSet::weighted` keeps the shape of the first voice's Gaussian list -/

theorem weighted_ok (ws : List K) (p : ModelParameter K) (ps : List (ModelParameter K)) (hw : ws ≠ []) :
    ∃ mp, weighted ws (p :: ps) = .ok mp ∧ mp.parameters.length = p.parameters.length := by
  obtain ⟨w, wr, rfl⟩ := List.exists_cons_of_ne_nil hw
  exact ⟨_, rfl, (foldl_measure_eq (fun mp : ModelParameter K => mp.parameters.length) _
    (fun _ _ => ModelParameter.zipAdd_length ..) _ _).trans (ModelParameter.mul_length p w)⟩

theorem blend_map_ok {β : Type} {ws : List K} (hw : ws ≠ []) {sel : β → Option (ModelParameter K)} {v0 : β}
    {vs : List β} (h : ∀ v ∈ v0 :: vs, (sel v).isSome = true) :
    ∃ p mp, sel v0 = some p ∧ blend ws ((v0 :: vs).map sel) = .ok mp ∧
      mp.parameters.length = p.parameters.length := by
  obtain ⟨p, hp⟩ := Option.isSome_iff_exists.1 (h v0 (List.mem_cons_self ..))
  obtain ⟨ps, hps⟩ := sequenceO_some (vs.map sel)
    (List.forall_mem_map.2 fun v hv => h v (List.mem_cons_of_mem _ hv))
  obtain ⟨mp, hmp, hl⟩ := weighted_ok ws p ps hw
  refine ⟨p, mp, hp, ?_, hl⟩
  rw [blend, List.map_cons, hp, sequenceO, hps]
  exact hmp

theorem toModelParameter_length (p : PdfBits) :
    (toModelParameter (α := K) p).parameters.length = min p.means.length p.varis.length := by
  simp [toModelParameter]

theorem select_eq_some {m : FileModel} {k : Nat} {l : List Char} {p : ModelParameter K}
    (h : select m k l = some p) : ∃ x, getParameter m k l = some x ∧ p = toModelParameter x.2.2 := by
  obtain ⟨x, hx, rfl⟩ := Option.map_eq_some_iff.1 h
  exact ⟨x, hx, rfl⟩

theorem select_isSome {m : FileModel} {k : Nat} {l : List Char}
    (h : (getParameter m k l).isSome = true) : (select (α := K) m k l).isSome = true := by
  simp [select, h]

/-- the reference (first) voice: stream layout, and the *shape* of what its trees select -/
structure HeadWF (v0 : ParsedVoice) : Prop where
  /-- `NUM_STATES ≥ 1`. Used only when alignment is on: `EngineWF.align` asks for `0 < nstate`, so `engineIn_total`
      (whose conclusion contains `EngineWF`) is false for a voice with `NUM_STATES:0` and `set_alignment(true)`; such a
      voice is loadable (`parseVoice` does not reject 0) and satisfies every other clause with empty duration PDFs. -/
  nstates_pos : 0 < v0.global.nstates
  nstreams : v0.global.nstreams = 2 ∨ v0.global.nstreams = 3
  streams : v0.streams.length = v0.global.nstreams
  /-- log-F0 is scalar -/
  lf0 : ∀ s, v0.streams[1]? = some s → s.info.veclen = 1
  /-- the low-pass filter (if there is a third stream) has odd length -/
  lpf : ∀ s, v0.streams[2]? = some s → s.info.veclen % 2 = 1
  windows : ∀ s ∈ v0.streams, 1 ≤ s.windows.length
  durShape : ∀ label x, getParameter v0.duration 2 label = some x →
    x.2.2.means.length = v0.global.nstates ∧ x.2.2.varis.length = v0.global.nstates
  /-- a stream PDF has (at least) `veclen × #windows` means and variances, `#windows` being the windows actually
      loaded from `STREAM_WIN`, not `NUM_WINDOWS` (`info.nwin`), from which the loader computes the PDF length. Neither
      `parseVoice` nor the Rust loader (src/model/parser/mod.rs) compares the two, so this clause is NOT implied by
      successful loading (`Tiny.badVoice_panics`); a real voice satisfies it iff `NUM_WINDOWS ≥` the number of
      `STREAM_WIN` entries. -/
  streamShape : ∀ s ∈ v0.streams, ∀ k < v0.global.nstates, ∀ label x,
    getParameter s.model (k + 2) label = some x →
      s.info.veclen * s.windows.length ≤ x.2.2.means.length ∧
      s.info.veclen * s.windows.length ≤ x.2.2.varis.length

/-- any voice of the set, against the reference voice `v0`: it has the streams `v0` has (a GV model where
    `v0` uses GV), and its trees are *total*: every label selects a PDF at every state index used. Shape is asked of the
    first voice only (`HeadWF.durShape`, `HeadWF.streamShape`): `VoiceSet::weighted` zips the other voices' Gaussians
    onto the first voice's list (`zipAdd` keeps the left length), so only its lengths matter; the stream clause needs
    `veclen × #windows ≤ length` (`StreamWF`), the duration clause equality. Not needed for totality, hence absent:
    agreement of the voices' metadata (`VoiceSet::new`), `msd.isSome` (a missing MSD weight is read as `big`), the
    length of a GV PDF (read with `getD`), `windows.length = info.nwin`. -/
structure VoiceWF (v0 v : ParsedVoice) : Prop where
  dur : ∀ label, (getParameter v.duration 2 label).isSome = true
  stream : ∀ (i : Nat) s0, v0.streams[i]? = some s0 → ∃ s, v.streams[i]? = some s ∧
    (∀ k < v0.global.nstates, ∀ label, (getParameter s.model (k + 2) label).isSome = true) ∧
    (s0.info.useGv = true → ∃ g, s.gv = some g ∧ ∀ label, (getParameter g 2 label).isSome = true)

/-- one weight per voice in every weight vector that is read (`WeightsWF.of_IWWF` gets this from `IW.WF`; the proof
    uses only that these vectors are non-empty) -/
structure WeightsWF (nvoices nstreams : Nat) (iw : IW K) : Prop where
  dur : iw.duration.length = nvoices
  par : ∀ i < nstreams, (iw.parameter.getD i []).length = nvoices
  gv : ∀ i < nstreams, (iw.gv.getD i []).length = nvoices

/-- **well-formed voice set**: what the loader and `VoiceSet::new` establish, as far as totality needs it -/
structure VoicesWF (voices : List ParsedVoice) (iw : IW K) : Prop where
  nonempty : voices ≠ []
  head : ∀ v0, voices.head? = some v0 → HeadWF v0
  each : ∀ v0, voices.head? = some v0 → ∀ v ∈ voices, VoiceWF v0 v
  weights : ∀ v0, voices.head? = some v0 → WeightsWF voices.length v0.global.nstreams iw

/-- the three `∀ v0, voices.head? = some v0 → …` clauses for a list written `v0 :: vs` -/
theorem VoicesWF.of_cons {v0 : ParsedVoice} {vs : List ParsedVoice} {iw : IW K} (hh : HeadWF v0)
    (he : ∀ v ∈ v0 :: vs, VoiceWF v0 v) (hw : WeightsWF (v0 :: vs).length v0.global.nstreams iw) :
    VoicesWF (v0 :: vs) iw :=
  ⟨List.cons_ne_nil _ _, fun _ h => Option.some.inj h ▸ hh, fun _ h => Option.some.inj h ▸ he,
    fun _ h => Option.some.inj h ▸ hw⟩

/-- `InterporationWeight`'s own invariant (`IW.WF`, preserved by every setter: `IWOp.apply_ok_wf`) gives the
    weight clause -/
theorem WeightsWF.of_IWWF (iw : IW K) (ns : Nat) (h : iw.WF ns) : WeightsWF iw.nvoices ns iw := by
  obtain ⟨h1, h2, h3, h4, h5⟩ := h
  refine ⟨h1, fun i hi => ?_, fun i hi => ?_⟩
  · have hi' : i < iw.parameter.length := by omega
    rw [List.getD_eq_getElem?_getD, List.getElem?_eq_getElem hi']
    exact h4 _ (List.getElem_mem hi')
  · have hi' : i < iw.gv.length := by omega
    rw [List.getD_eq_getElem?_getD, List.getElem?_eq_getElem hi']
    exact h5 _ (List.getElem_mem hi')

section stages
variable (v0 : ParsedVoice) (vs : List ParsedVoice) (iw : IW K)
  (hh : HeadWF v0) (he : ∀ v ∈ v0 :: vs, VoiceWF v0 v)
  (hw : WeightsWF (K := K) (v0 :: vs).length v0.global.nstreams iw)
include hh he hw

theorem modelsDuration_ok (labels : List (List Char)) :
    ∃ dur, modelsDuration (v0 :: vs) iw labels = .ok dur ∧
      dur.length = labels.length * v0.global.nstates := by
  have hws : iw.duration ≠ [] := List.ne_nil_of_length_pos (by rw [hw.dur]; simp)
  unfold modelsDuration
  obtain ⟨ps, hps, hl, hall⟩ := sequenceOut_ok (P := fun mp : ModelParameter K => mp.parameters.length = v0.global.nstates)
    (List.forall_mem_map.2 fun l _ => by
      obtain ⟨p, mp, hp, hmp, hl⟩ := blend_map_ok hws fun v hv => select_isSome ((he v hv).dur l)
      obtain ⟨x, hx, rfl⟩ := select_eq_some hp
      obtain ⟨e1, e2⟩ := hh.durShape l x hx
      exact ⟨mp, hmp, by rw [hl, toModelParameter_length, e1, e2, Nat.min_self]⟩)
  exact ⟨_, by rw [hps]; rfl, by rw [length_flatten_map_const ps _ _ hall, hl, List.length_map]⟩

theorem modelsStream_ok (big : K) (labels : List (List Char)) (i : Nat) (s0 : ParsedStream)
    (hs0 : v0.streams[i]? = some s0) (hi : i < v0.global.nstreams) :
    ∃ st, modelsStream big (v0 :: vs) iw labels v0.global.nstates i = .ok st ∧
      st.length = labels.length * v0.global.nstates ∧
      ∀ s ∈ st, s0.info.veclen * s0.windows.length ≤ s.params.length := by
  have hws : iw.parameter.getD i [] ≠ [] := List.ne_nil_of_length_pos (by rw [hw.par i hi]; simp)
  unfold modelsStream
  refine (sequenceOut_ok ?_).imp fun st h =>
    ⟨h.1, by rw [h.2.1, length_flatten_map_const labels _ v0.global.nstates (by simp)], h.2.2⟩
  simp only [List.mem_flatten, List.mem_map, List.mem_range, forall_exists_index, and_imp,
    forall_apply_eq_imp_iff₂]
  rintro _ l _ k hk rfl
  obtain ⟨p, mp, hp, hmp, hl⟩ := blend_map_ok hws
    (sel := fun v : ParsedVoice => (streamOf v i).bind fun s => select (α := K) s.model (k + 2) l) fun v hv => by
      obtain ⟨s, hs, ht, -⟩ := (he v hv).stream i s0 hs0
      simp only [streamOf, hs, Option.bind_some]
      exact select_isSome (ht k hk l)
  simp only [streamOf, hs0, Option.bind_some] at hp
  obtain ⟨x, hx, rfl⟩ := select_eq_some hp
  obtain ⟨e1, e2⟩ := hh.streamShape s0 (List.mem_of_getElem? hs0) k hk l x hx
  refine ⟨_, by rw [hmp]; rfl, ?_⟩
  show _ ≤ mp.parameters.length
  rw [hl, toModelParameter_length]
  exact Nat.le_min.2 ⟨e1, e2⟩

omit hh in
theorem modelsGv_ok (labels : List (List Char)) (i : Nat) (s0 : ParsedStream)
    (hs0 : v0.streams[i]? = some s0) (hi : i < v0.global.nstreams) :
    ∃ gv, modelsGv (v0 :: vs) iw labels v0.global.nstates i = .ok gv := by
  unfold modelsGv
  simp only [streamOf, hs0]
  cases hgv : s0.info.useGv with
  | false => exact ⟨none, by simp⟩
  | true =>
    cases labels with
    | nil => exact ⟨none, by simp⟩
    | cons l0 ls =>
      have hws : iw.gv.getD i [] ≠ [] := List.ne_nil_of_length_pos (by rw [hw.gv i hi]; simp)
      obtain ⟨-, mp, -, hmp, -⟩ := blend_map_ok hws
        (sel := fun v : ParsedVoice => (v.streams[i]?).bind fun s => s.gv.bind fun g => select (α := K) g 2 l0)
        fun v hv => by
          obtain ⟨s, hs, -, hg⟩ := (he v hv).stream i s0 hs0
          obtain ⟨g, hg1, hg2⟩ := hg hgv
          simp only [hs, hg1, Option.bind_some]
          exact select_isSome (hg2 l0)
      exact ⟨_, by simp only [Bool.not_true, Bool.false_eq_true, if_false, hmp]; rfl⟩

theorem modelStream_ok (big : K) (labels : List (List Char)) (i : Nat) (s0 : ParsedStream)
    (hs0 : v0.streams[i]? = some s0) (hi : i < v0.global.nstreams) :
    ∃ s, modelStream big (v0 :: vs) iw labels v0.global.nstates i = .ok s ∧
      s.vectorLength = s0.info.veclen ∧ StreamWF s ∧
      s.stream.length = labels.length * v0.global.nstates ∧
      ∀ g sw, s.gv = some (g, sw) → sw.length = labels.length * v0.global.nstates := by
  obtain ⟨st, hst, hsl, hsp⟩ := modelsStream_ok v0 vs iw hh he hw big labels i s0 hs0 hi
  obtain ⟨gv, hgv⟩ := modelsGv_ok v0 vs iw he hw labels i s0 hs0 hi
  refine ⟨_, (modelStream_eq_ok_iff (v0 := v0) rfl).2 ⟨s0, st, gv, hs0, hst, hgv, rfl⟩, rfl, ?_, hsl, ?_⟩
  · exact ⟨by simpa using hh.windows s0 (List.mem_of_getElem? hs0), fun sp hsp' => by simpa using hsp sp hsp'⟩
  · intro g sw hg
    obtain ⟨-, -, -, hsw⟩ := modelsGv_spec (v0 := v0) rfl hgv
    rw [hsw g sw hg, length_flatten_map_const labels _ v0.global.nstates (by simp)]

end stages

/-- well-formed under every condition that has one threshold and one GV weight per stream, so under `condOf v0 ops` for
    every history (`condOf_lengths`) -/
theorem engineIn_wf (big : K) (voices : List ParsedVoice) (iw : IW K) (h : VoicesWF voices iw)
    (v0 : ParsedVoice) (hv0 : voices.head? = some v0) (labels : List (List Char)) (times : List (K × K)) :
    ∃ inp, engineIn big voices iw labels times = .ok inp ∧
      inp.duration.length = labels.length * v0.global.nstates ∧
      ∀ c : Condition K, c.msdThreshold.length = v0.global.nstreams → c.gvWeight.length = v0.global.nstreams →
        (c.alignment = true → times.length = labels.length) → EngineWF c inp := by
  have hh := h.head v0 hv0
  obtain ⟨vs, rfl⟩ := List.head?_eq_some_iff.1 hv0
  have he := h.each v0 rfl
  have hw := h.weights v0 rfl
  obtain ⟨dur, hdur, hdl⟩ := modelsDuration_ok v0 vs iw hh he hw labels
  have hms := modelStream_ok v0 vs iw hh he hw big labels
  have hs0 : ∀ i < v0.global.nstreams, ∃ s0, v0.streams[i]? = some s0 := fun i hi =>
    ⟨_, List.getElem?_eq_getElem (hh.streams ▸ hi)⟩
  obtain ⟨streams, hstr, -, -⟩ := sequenceOut_ok (P := fun _ : StreamIn K => True)
    (l := (List.range v0.global.nstreams).map fun i => modelStream big (v0 :: vs) iw labels v0.global.nstates i) (by
      simp only [List.forall_mem_map, List.mem_range, and_true]
      exact fun i hi => (hs0 i hi).elim fun s0 h0 => (hms i s0 h0 hi).imp fun _ hs => hs.1)
  obtain ⟨hsl, hsi⟩ := sequenceOut_range_eq_ok_iff.1 hstr
  -- stream `i` of the stage inputs is the `modelStream … i` of `modelStream_ok`
  have hsi' : ∀ (i : Nat) (s : StreamIn K), streams[i]? = some s →
      ∃ s0 : ParsedStream, v0.streams[i]? = some s0 ∧ s.vectorLength = s0.info.veclen ∧
        StreamWF s ∧ s.stream.length = dur.length ∧ ∀ g sw, s.gv = some (g, sw) → dur.length ≤ sw.length := by
    intro i s hs
    obtain ⟨hi, hm⟩ := (hsi i s).1 hs
    obtain ⟨s0, h0⟩ := hs0 i hi
    obtain ⟨s', hs', h1, h2, h3, h4⟩ := hms i s0 h0 hi
    obtain rfl : s' = s := ok.inj (hs'.symm.trans hm)
    exact ⟨s0, h0, h1, h2, h3.trans hdl.symm, fun g sw hg => by rw [h4 g sw hg, hdl]⟩
  refine ⟨⟨v0.global.nstates, v0.global.nstreams, dur, streams, times⟩, by simp [engineIn, hdur, hstr], hdl,
    fun c c1 c2 halign => ?_⟩
  exact
    { nstream := hh.nstreams
      streams := hsl
      wf := fun s hs => by
        obtain ⟨i, hi, rfl⟩ := List.mem_iff_getElem.1 hs
        obtain ⟨_, -, -, h⟩ := hsi' i _ (List.getElem?_eq_getElem hi)
        exact h
      lf0 := fun s hs => by
        obtain ⟨s0, h0, hv, -⟩ := hsi' 1 s hs
        exact hv ▸ hh.lf0 s0 h0
      lpf := fun s hs => by
        obtain ⟨s0, h0, hv, -⟩ := hsi' 2 s hs
        exact hv ▸ hh.lpf s0 h0
      gvw := c2.ge
      thr := c1.ge
      align := fun ha => ⟨hh.nstates_pos, by rw [hdl, halign ha]⟩ }

theorem engineIn_total (big : K) (voices : List ParsedVoice) (iw : IW K) (h : VoicesWF voices iw)
    (v0 : ParsedVoice) (hv0 : voices.head? = some v0) (ops : List (CondOp K))
    (labels : List (List Char)) (times : List (K × K))
    (halign : (condOf (K := K) v0 ops).alignment = true → times.length = labels.length) :
    ∃ inp, engineIn big voices iw labels times = .ok inp ∧ EngineWF (condOf v0 ops) inp ∧
      inp.duration.length = labels.length * v0.global.nstates := by
  obtain ⟨inp, hin, hdl, hwf⟩ := engineIn_wf big voices iw h v0 hv0 labels times
  exact ⟨inp, hin, hwf _ (condOf_lengths v0 ops).1 (condOf_lengths v0 ops).2 halign, hdl⟩

theorem synthesize_total_inputs (fx : Fix) (big : K) (voices : List ParsedVoice) (iw : IW K) (h : VoicesWF voices iw)
    (v0 : ParsedVoice) (hv0 : voices.head? = some v0) (ops : List (CondOp K)) (f : Condition K → Bool)
    (labels : List (List Char)) (times : List (K × K))
    (halign : (condOf (K := K) v0 ops).alignment = true → times.length = labels.length) :
    ∃ inp durs w, engineIn big voices iw labels times = .ok inp ∧
      inp.duration.length = labels.length * v0.global.nstates ∧
      engineDurations (condOf v0 ops) (f (condOf v0 ops)) inp = .ok durs ∧
      synthesize fx big voices iw ops f labels times = .ok w ∧
      w.length = (condOf (K := K) v0 ops).fperiod * durs.sum ∧
      durs.length = labels.length * v0.global.nstates ∧ (∀ d ∈ durs, 1 ≤ d) := by
  obtain ⟨inp, hin, hwf, hdl⟩ := engineIn_total big voices iw h v0 hv0 ops labels times halign
  obtain ⟨durs, w, hD, hl, hp, hW, hwl⟩ := engineSynthesize_total fx (condOf v0 ops) inp hwf (f (condOf v0 ops))
  exact ⟨inp, durs, w, hin, hdl, hD, by rw [synthesize_eq, withInputs_of_ok hv0 hin]; exact hW, hwl, by rw [hl, hdl], hp⟩

theorem synthesize_total (fx : Fix) (big : K) (voices : List ParsedVoice) (iw : IW K) (h : VoicesWF voices iw)
    (v0 : ParsedVoice) (hv0 : voices.head? = some v0) (ops : List (CondOp K)) (f : Condition K → Bool)
    (labels : List (List Char)) (times : List (K × K))
    (halign : (condOf (K := K) v0 ops).alignment = true → times.length = labels.length) :
    ∃ (durs : List Nat) (w : List K), synthesize fx big voices iw ops f labels times = .ok w ∧
      w.length = (condOf (K := K) v0 ops).fperiod * durs.sum ∧
      durs.length = labels.length * v0.global.nstates ∧ (∀ d ∈ durs, 1 ≤ d) := by
  obtain ⟨_, durs, w, _, _, _, h1, h2, h3, h4⟩ :=
    synthesize_total_inputs fx big voices iw h v0 hv0 ops f labels times halign
  exact ⟨durs, w, h1, h2, h3, h4⟩

theorem synthesize_frames_ge (fx : Fix) (big : K) (voices : List ParsedVoice) (iw : IW K) (h : VoicesWF voices iw)
    (v0 : ParsedVoice) (hv0 : voices.head? = some v0) (ops : List (CondOp K)) (f : Condition K → Bool)
    (labels : List (List Char)) (times : List (K × K))
    (halign : (condOf (K := K) v0 ops).alignment = true → times.length = labels.length) :
    ∃ (durs : List Nat) (w : List K), synthesize fx big voices iw ops f labels times = .ok w ∧
      w.length = (condOf (K := K) v0 ops).fperiod * durs.sum ∧
      labels.length * v0.global.nstates ≤ durs.sum ∧
      (condOf (K := K) v0 ops).fperiod * (labels.length * v0.global.nstates) ≤ w.length := by
  obtain ⟨durs, w, h1, h2, h3, h4⟩ := synthesize_total fx big voices iw h v0 hv0 ops f labels times halign
  have hge : labels.length * v0.global.nstates ≤ durs.sum := h3 ▸ List.length_le_sum_of_one_le durs h4
  exact ⟨durs, w, h1, h2, hge, by rw [h2]; exact Nat.mul_le_mul_left _ hge⟩

theorem synthesize_empty (fx : Fix) (big : K) (voices : List ParsedVoice) (iw : IW K) (h : VoicesWF voices iw)
    (ops : List (CondOp K)) (f : Condition K → Bool) :
    synthesize fx big voices iw ops f [] [] = .ok [] := by
  obtain ⟨v0, vs, rfl⟩ := List.exists_cons_of_ne_nil h.nonempty
  obtain ⟨durs, w, h1, h2, h3, -⟩ := synthesize_total fx big _ iw h v0 rfl ops f [] [] (fun _ => rfl)
  obtain rfl : durs = [] := List.length_eq_zero_iff.1 (by simpa using h3)
  obtain rfl : w = [] := List.length_eq_zero_iff.1 (by simpa using h2)
  exact h1

/-! ### non-vacuity: a concrete (tiny) voice set satisfying `VoicesWF` -/

namespace Tiny

/-- one single-leaf tree for state index 2 selecting PDF 1, which has `n` means and `n` variances -/
def leafModel (n : Nat) (msd : Option UInt32) : FileModel :=
  { questions := [], trees := [⟨2, [⟨0, "", .pdf 1, .pdf 1⟩]⟩],
    pdfs := [[⟨List.replicate n 0, List.replicate n 0, msd⟩]] }

theorem leafModel_get (n : Nat) (msd : Option UInt32) (label : List Char) :
    getParameter (leafModel n msd) 2 label = some (2, 1, ⟨List.replicate n 0, List.replicate n 0, msd⟩) := rfl

/-- one state, two streams (spectrum of order 1 without GV; scalar MSD log-F0 with GV), one window each. A witness for the
    model's hypotheses only: on a spectrum of order 1 the real vocoder panics (`coefficients[1]`, vocoder/mlsa/mod.rs:68),
    where the model reads `c.getD 1 0` -/
def voice : ParsedVoice :=
  { global := { version := "1.0", sr := 48000, fp := 240, nstates := 1, nstreams := 2,
                streamType := ["MCP", "LF0"], fmt := "HTS_TTS_JPN", fver := "1.0", gvOff := [] },
    duration := leafModel 1 none,
    streams := [
      { name := "MCP", info := { veclen := 1, nwin := 1, isMsd := false, useGv := false, option := [] },
        model := leafModel 1 none, gv := none, windows := [["1.0"]] },
      { name := "LF0", info := { veclen := 1, nwin := 1, isMsd := true, useGv := true, option := [] },
        model := leafModel 1 (some 0), gv := some (leafModel 1 none), windows := [["1.0"]] }] }

def weights : IW K := { nvoices := 1, duration := [1], parameter := [[1], [1]], gv := [[1], [1]] }

theorem headWF : HeadWF voice := by
  refine ⟨by decide, Or.inl rfl, rfl, ?_, ?_, ?_, ?_, ?_⟩
  · intro s hs
    simp only [voice, List.getElem?_cons_succ, List.getElem?_cons_zero, Option.some.injEq] at hs
    subst hs; rfl
  · intro s hs
    simp [voice] at hs
  · intro s hs
    simp only [voice, List.mem_cons, List.not_mem_nil, or_false] at hs
    rcases hs with rfl | rfl <;> decide
  · intro label x hx
    simp only [voice, leafModel_get, Option.some.injEq] at hx
    subst hx
    simp [voice]
  · intro s hs k hk label x hx
    have hk0 : k = 0 := by simp only [voice] at hk; omega
    subst hk0
    simp only [voice, List.mem_cons, List.not_mem_nil, or_false] at hs
    rcases hs with rfl | rfl <;>
    · simp only [Nat.zero_add, leafModel_get, Option.some.injEq] at hx
      subst hx
      simp

/-- a one-state voice whose models are single leaves — a first stream without GV, a second with a GV leaf, whatever
    their windows — has total trees -/
theorem voiceWF_of_leaves (v : ParsedVoice) (hn : v.global.nstates = 1) {nd a b c : Nat}
    {md ma mb mc : Option UInt32} {g0 : Option FileModel} (hd : v.duration = leafModel nd md)
    (hs : v.streams.map (fun s => (s.model, s.info.useGv, s.gv)) =
      [(leafModel a ma, false, g0), (leafModel b mb, true, some (leafModel c mc))]) : VoiceWF v v := by
  refine ⟨fun label => by simp [hd, leafModel_get], fun i s0 hs0 => ⟨s0, hs0, ?_⟩⟩
  have hmem := List.mem_map_of_mem (f := fun s : ParsedStream => (s.model, s.info.useGv, s.gv))
    (List.mem_of_getElem? hs0)
  simp only [hs, List.mem_cons, List.not_mem_nil, or_false, Prod.mk.injEq] at hmem
  have h0 : ∀ k < v.global.nstates, k = 0 := fun k hk => by omega
  rcases hmem with ⟨e, eg, -⟩ | ⟨e, -, eg⟩
  · exact ⟨fun k hk label => by simp [h0 k hk, e, leafModel_get], fun h => by rw [eg] at h; cases h⟩
  · exact ⟨fun k hk label => by simp [h0 k hk, e, leafModel_get],
      fun _ => ⟨_, eg, fun label => by simp [leafModel_get]⟩⟩

theorem voiceWF : VoiceWF voice voice := voiceWF_of_leaves voice rfl rfl rfl

theorem weightsWF : WeightsWF (K := K) 1 2 weights := by
  refine ⟨rfl, ?_, ?_⟩ <;>
  · intro i hi
    have : i = 0 ∨ i = 1 := by omega
    rcases this with rfl | rfl <;> rfl

theorem voicesWF : VoicesWF (K := K) [voice] weights :=
  .of_cons headWF (fun _ hv => List.mem_singleton.1 hv ▸ voiceWF) weightsWF

/-- hence synthesis from `[voice]` returns for every label sequence, setter history and speed test -/
example (fx : Fix) (big : K) (ops : List (CondOp K)) (f : Condition K → Bool) (labels : List (List Char))
    (times : List (K × K))
    (halign : (condOf (K := K) voice ops).alignment = true → times.length = labels.length) :
    ∃ (durs : List Nat) (w : List K), synthesize fx big [voice] weights ops f labels times = .ok w ∧
      w.length = (condOf (K := K) voice ops).fperiod * durs.sum ∧ durs.length = labels.length * 1 ∧
      (∀ d ∈ durs, 1 ≤ d) :=
  synthesize_total fx big [voice] weights voicesWF voice rfl ops f labels times halign

def badVoice : ParsedVoice :=
  { voice with streams := [
      { name := "MCP", info := { veclen := 1, nwin := 1, isMsd := false, useGv := false, option := [] },
        model := leafModel 1 none, gv := none, windows := [["1.0"], ["-0.5", "0.0", "0.5"]] },
      { name := "LF0", info := { veclen := 1, nwin := 1, isMsd := true, useGv := true, option := [] },
        model := leafModel 1 (some 0), gv := some (leafModel 1 none), windows := [["1.0"]] }] }

theorem badVoice_engineIn (big : K) (l : List Char) :
    ∃ inp s st, engineIn big [badVoice] (weights (K := K)) [l] [] = .ok inp ∧ inp.duration.length = 1 ∧
      inp.streams[0]? = some s ∧ s.vectorLength = 1 ∧ s.windows.length = 2 ∧ s.stream = [st] ∧
      st.params.length = 1 :=
  ⟨_, _, _, rfl, rfl, rfl, rfl, rfl, rfl, rfl⟩

/-- every tree of `badVoice` is total (the totality half of `VoicesWF` holds for `[badVoice]`) -/
theorem badVoice_voiceWF : VoiceWF badVoice badVoice := voiceWF_of_leaves badVoice rfl rfl rfl

/-- **the shape clause `HeadWF.streamShape` is needed, and the loader does not give it**: `badVoice` differs
    from `voice` only in that its spectrum stream lists two windows (`STREAM_WIN`) while its PDFs were cut
    for one (`NUM_WINDOWS:1`; nothing in `parseVoice` — or in the Rust loader — compares the two). Its
    trees are total (`badVoice_voiceWF`), the weights are as for `voice`, and synthesis of any single label
    reaches the `curr_stream[m]` index panic of `MlpgAdjust::create`. -/
theorem badVoice_panics (fx : Fix) (big : K) (f : Condition K → Bool) (l : List Char) :
    synthesize fx big [badVoice] (weights (K := K)) [] f [l] [] = .panic "mlpg_adjust/mod.rs:curr_stream[m]" := by
  obtain ⟨inp, s, st, hin, hdl, hs, hv, hwn, hst, hp⟩ := badVoice_engineIn (K := K) big l
  rw [synthesize_eq_engine fx big badVoice [] _ [] f [l] [] inp hin]
  have hc : condOf (K := K) badVoice [] = Condition.default.loadModel 48000 240 2
      (headerOptions (α := K) badVoice).1 (headerOptions (α := K) badVoice).2.1 (headerOptions (α := K) badVoice).2.2 := rfl
  refine engineSynthesize_short_state fx _ _ inp s st [] (gw := 1) (thr := half) (hs := hs) (hst := hst)
    (hv := by omega) (hwn := by omega) (hlt := by rw [hp, hv, hwn]; decide) ?_ ?_ ?_ ?_
  · rw [hc]; rfl
  · intro h; rw [h] at hdl; simp at hdl
  · rw [hc]; rfl
  · rw [hc]; rfl

end Tiny

end Synth
end Jb
