/-
  `DurationEstimator` (`Jb/Model/Duration.lean`): `min_by` over a non-empty filter returns an eligible index;
  the greedy loop terminates without panic by counting alone, at any scalar type; over a linearly ordered
  field with a floor, `create` is total, gives every state at least one frame and hits the frame total that
  C08 states.
-/
import Jb.Proofs.Field

namespace Jb

section
variable {α : Type} [LT α] [DecidableLT α]

/-- One scan of `argminFirst.go`: the running best survives — and then, if there was none, no position was
    eligible — or an eligible position replaces it. -/
theorem argminFirst_go_spec (i : Nat) (cs : List α) (oks : List Bool) (best : Option (Nat × α)) :
    (argminFirst.go i cs oks best = best ∧ (best = none → ∀ j < cs.length, oks[j]? ≠ some true)) ∨
      ∃ j, ∃ _ : j < cs.length, oks[j]? = some true ∧ argminFirst.go i cs oks best = some (i + j, cs[j]) := by
  fun_induction argminFirst.go i cs oks best with
  | case1 i best c cs o oks best' ih =>
    -- position `i` leaves the best alone (it is not eligible, or there is a best already) or, being
    -- eligible, becomes it
    have hb : (best' = best ∧ (best = none → o = false)) ∨ (o = true ∧ best' = some (i, c)) := by
      cases o with
      | false => exact Or.inl ⟨rfl, fun _ => rfl⟩
      | true =>
        rcases best with _ | ⟨bi, bc⟩
        · exact Or.inr ⟨rfl, rfl⟩
        · by_cases h : c < bc
          · exact Or.inr ⟨rfl, by simp only [best', if_true, h]⟩
          · exact Or.inl ⟨by simp only [best', if_true, h, if_false], nofun⟩
    rcases ih with ⟨e, hno⟩ | ⟨j, hj, hoj, e⟩
    · rcases hb with ⟨e', ho⟩ | ⟨ho, e'⟩
      · refine Or.inl ⟨e.trans e', fun hn j hj => ?_⟩
        cases j with
        | zero => rw [List.getElem?_cons_zero, ho hn]; nofun
        | succ j => exact hno (e'.trans hn) j (Nat.lt_of_succ_lt_succ hj)
      · exact Or.inr ⟨0, Nat.succ_pos _, congrArg some ho, e.trans e'⟩
    · exact Or.inr ⟨j + 1, Nat.succ_lt_succ hj, hoj, by rw [e, Nat.add_right_comm, Nat.add_assoc]; rfl⟩
  | case2 cs i oks best hne =>
    refine Or.inl ⟨rfl, fun _ j hj => ?_⟩
    obtain ⟨c, cs', rfl⟩ := List.exists_cons_of_length_pos (Nat.zero_lt_of_lt hj)
    cases oks with
    | nil => nofun
    | cons o oks => exact (hne c cs' o oks rfl rfl).elim

theorem argminFirst_spec (costs : List α) (ok : List Bool) (hl : costs.length = ok.length)
    (hm : true ∈ ok) : ∃ i, argminFirst costs ok = some i ∧ i < costs.length ∧ ok[i]? = some true := by
  rcases argminFirst_go_spec 0 costs ok none with ⟨-, hno⟩ | ⟨j, hj, hoj, e⟩
  · obtain ⟨j, hj, e⟩ := List.getElem_of_mem hm
    exact absurd (e ▸ List.getElem?_eq_getElem hj) (hno rfl j (hl ▸ hj))
  · exact ⟨j, by rw [argminFirst, e, Nat.zero_add]; rfl, hj, hoj⟩

/-- The pick of one round of the greedy loop: with one cost per state, a state eligible under `p` is chosen. The cost
    list enters through its length alone. -/
theorem argminFirst_zip_spec {β : Type} {ps : List β} {dur : List Nat} {f : Nat × β → α} {costs : List α}
    (hcs : (dur.zip ps).map f = costs) (hl : dur.length = ps.length) (p : Nat → Bool)
    (hm : ∃ x ∈ dur, p x = true) :
    ∃ i, ∃ hi : i < dur.length, argminFirst costs (dur.map p) = some i ∧ p dur[i] = true := by
  have hcl : costs.length = dur.length := by rw [← hcs, List.length_map, List.length_zip, hl, Nat.min_self]
  obtain ⟨x, hx, hpx⟩ := hm
  obtain ⟨i, hi, hil, hio⟩ := argminFirst_spec costs (dur.map p) (by rw [hcl, List.length_map])
    (List.mem_map.2 ⟨x, hx, hpx⟩)
  rw [List.getElem?_map, List.getElem?_eq_getElem (hcl ▸ hil)] at hio
  exact ⟨i, hcl ▸ hil, hi, Option.some.inj hio⟩

end

theorem listModify_eq (l : List Nat) (i : Nat) (f : Nat → Nat) : listModify l i f = l.modify i f := by
  induction l generalizing i with
  | nil => rw [listModify, List.modify_nil]
  | cons x xs ih =>
    cases i with
    | zero => rfl
    | succ i => rw [listModify, ih, List.modify_succ_cons]

theorem sum_listModify (l : List Nat) (i : Nat) (f : Nat → Nat) (hi : i < l.length) :
    (listModify l i f).sum + l[i] = l.sum + f l[i] := by
  have h := congrArg List.sum (List.take_append_drop i l)
  rw [List.drop_eq_getElem_cons hi] at h
  rw [listModify_eq, List.modify_eq_take_cons_drop hi]
  simp only [List.sum_append, List.sum_cons] at h ⊢
  omega

theorem forall_mem_listModify {P : Nat → Prop} (l : List Nat) (i : Nat) (f : Nat → Nat)
    (h : ∀ x ∈ l, P x) (hf : ∀ hi : i < l.length, P (f l[i])) : ∀ x ∈ listModify l i f, P x := by
  intro x hx
  rw [listModify_eq] at hx
  obtain ⟨j, hj, rfl⟩ := List.mem_iff_getElem.1 hx
  rw [List.length_modify] at hj
  rw [List.getElem_modify]
  split_ifs with hij
  · subst hij; exact hf hj
  · exact h _ (List.getElem_mem hj)

theorem exists_gt_one_of_length_lt_sum (l : List Nat) (h1 : ∀ x ∈ l, 1 ≤ x)
    (h : l.length < l.sum) : ∃ x ∈ l, 1 < x := by
  induction l with
  | nil => exact absurd h (Nat.lt_irrefl 0)
  | cons x xs ih =>
    by_cases hx : 1 < x
    · exact ⟨x, List.mem_cons_self, hx⟩
    · have hx1 : x = 1 := Nat.le_antisymm (Nat.le_of_not_lt hx) (h1 x List.mem_cons_self)
      rw [List.length_cons, List.sum_cons, hx1, Nat.add_comm] at h
      obtain ⟨y, hy, hy1⟩ := ih (fun z hz => h1 z (List.mem_cons_of_mem _ hz)) (Nat.lt_of_add_lt_add_left h)
      exact ⟨y, List.mem_cons_of_mem _ hy, hy1⟩

section
variable {α : Type} [Sub α] [Div α] [Neg α] [OfNat α 0] [NatCast α] [LT α] [DecidableLT α]

/-- The greedy loop never reaches its `unwrap()` on an empty `min_by` and `|target − sum|` iterations
    suffice, whatever the costs compare like: only the counting matters. -/
theorem greedy_fuel_suffices (ps : List (MeanVari α)) (rho : α) (target : Nat) (hne : ps ≠ [])
    (hlt : ps.length < target) :
    ∀ (fuel : Nat) (dur : List Nat) (sum : Nat), dur.sum = sum → dur.length = ps.length →
      (∀ x ∈ dur, 1 ≤ x) → target ≤ sum + fuel → sum ≤ target + fuel →
      ∃ d, greedyLoop ps rho target fuel dur sum = .ok (some d) ∧ d.sum = target ∧
        d.length = ps.length ∧ ∀ x ∈ d, 1 ≤ x := by
  intro fuel
  induction fuel with
  | zero =>
    intro dur sum hs hl h1 ha hb
    obtain rfl : target = sum := Nat.le_antisymm ha hb
    exact ⟨dur, by rw [greedyLoop, if_pos rfl], hs, hl, h1⟩
  | succ fuel ih =>
    intro dur sum hs hl h1 ha hb
    rw [greedyLoop]
    by_cases ht : target = sum
    · rw [if_pos ht]; exact ⟨dur, rfl, ht ▸ hs, hl, h1⟩
    rw [if_neg ht]
    -- in both branches the cost list is hidden behind a variable before the pick: every later step would
    -- otherwise carry the `durCost` terms along
    by_cases hlt' : sum < target
    · -- one more frame for the cheapest state; every state is eligible
      rw [if_pos hlt']
      dsimp only
      generalize hcs : List.map _ (dur.zip ps) = costs
      obtain ⟨i, hi, e, -⟩ := argminFirst_zip_spec hcs hl (fun _ => true)
        ⟨_, List.getElem_mem (hl ▸ List.length_pos_of_ne_nil hne : 0 < dur.length), rfl⟩
      rw [e]
      have hsum := sum_listModify dur i (· + 1) hi
      exact ih _ _ (by omega) (by rw [listModify_eq, List.length_modify, hl])
        (forall_mem_listModify dur i _ h1 fun _ => Nat.le_add_left 1 _) (by rwa [Nat.add_right_comm])
        (Nat.le_add_right_of_le hlt')
    · -- one frame less for the cheapest state that has more than one; there is one by pigeonhole
      rw [if_neg hlt']
      dsimp only
      generalize hcs : List.map _ (dur.zip ps) = costs
      obtain ⟨i, hi, e, hgt⟩ := argminFirst_zip_spec hcs hl (fun d => decide (1 < d))
        (let ⟨x, hx, hx1⟩ := exists_gt_one_of_length_lt_sum dur h1 (by omega); ⟨x, hx, decide_eq_true hx1⟩)
      rw [e]
      have hgt : 1 < dur[i] := of_decide_eq_true hgt
      have hsum : (listModify dur i (· - 1)).sum + 1 = sum := by
        have := sum_listModify dur i (· - 1) hi
        omega
      exact ih _ _ (by omega) (by rw [listModify_eq, List.length_modify, hl])
        (forall_mem_listModify dur i _ h1 fun _ => Nat.le_sub_one_of_lt hgt) (by omega) (by omega)

end

variable {K : Type} [Field K] [LinearOrder K] [IsStrictOrderedRing K] [FloorRing K]

theorem estimateDuration_length (ps : List (MeanVari K)) (rho : K) :
    (estimateDuration ps rho).length = ps.length := List.length_map _

theorem estimateDuration_pos (ps : List (MeanVari K)) (rho : K) :
    ∀ x ∈ estimateDuration ps rho, 1 ≤ x := by
  intro x hx
  obtain ⟨p, _, rfl⟩ := List.mem_map.1 hx
  exact roundMax1_pos _

theorem estimateDuration_zero (ps : List (MeanVari K)) :
    estimateDuration ps (0 : K) = ps.map fun p => max 1 ⌊p.mean + 1 / 2⌋₊ :=
  List.map_congr_left fun p _ => by rw [zero_mul, add_zero, roundMax1_def]

/-- `estimate_duration_with_frame_length` never panics: the `unwrap()` on an empty `min_by` is unreachable
    and the fuel the model gives the loop suffices. -/
theorem estimateWithFrameLength_spec (ps : List (MeanVari K)) (x : K) :
    ∃ d, estimateWithFrameLength ps x = .ok d ∧ d.length = ps.length ∧ (∀ y ∈ d, 1 ≤ y) ∧
      (RoundNat.roundMax1 x ≤ ps.length → d = List.replicate ps.length 1) ∧
      (ps ≠ [] → d.sum = max (RoundNat.roundMax1 x) ps.length) := by
  unfold estimateWithFrameLength
  dsimp only
  by_cases h : RoundNat.roundMax1 x ≤ ps.length
  · rw [if_pos h]
    exact ⟨_, rfl, List.length_replicate, fun y hy => (List.eq_of_mem_replicate hy).ge, fun _ => rfl,
      fun _ => by rw [List.sum_replicate_nat, Nat.mul_one, max_eq_right h]⟩
  · rw [if_neg h]
    by_cases hps : ps = []
    · subst hps
      exact ⟨[], rfl, rfl, fun _ hy => (List.not_mem_nil hy).elim, fun h' => absurd h' h,
        fun h' => absurd rfl h'⟩
    · generalize hrho : ((RoundNat.roundMax1 x : K) - (sumMeanVari ps).mean) / (sumMeanVari ps).vari = rho
      have hemp : (estimateDuration ps rho).isEmpty = false := by
        rw [List.isEmpty_eq_false_iff, ← List.length_pos_iff, estimateDuration_length]
        exact List.length_pos_of_ne_nil hps
      rw [hemp, if_neg Bool.false_ne_true]
      -- the fuel is `|target − sum|`
      generalize hf : (if (estimateDuration ps rho).sum < RoundNat.roundMax1 x
          then RoundNat.roundMax1 x - (estimateDuration ps rho).sum
          else (estimateDuration ps rho).sum - RoundNat.roundMax1 x) = fuel
      have hfuel : RoundNat.roundMax1 x ≤ (estimateDuration ps rho).sum + fuel ∧
          (estimateDuration ps rho).sum ≤ RoundNat.roundMax1 x + fuel := by
        rw [← hf]; split_ifs with hlt
        · exact ⟨(Nat.add_sub_cancel' hlt.le).ge, Nat.le_add_right_of_le hlt.le⟩
        · exact ⟨Nat.le_add_right_of_le (Nat.le_of_not_lt hlt), (Nat.add_sub_cancel' (Nat.le_of_not_lt hlt)).ge⟩
      obtain ⟨d, hd, hsum, hlen, hpos⟩ := greedy_fuel_suffices ps rho (RoundNat.roundMax1 x) hps
        (Nat.lt_of_not_le h) fuel (estimateDuration ps rho) _ rfl (estimateDuration_length ps rho)
        (estimateDuration_pos ps rho) hfuel.1 hfuel.2
      rw [hd]
      exact ⟨d, rfl, hlen, hpos, fun h' => absurd h' h,
        fun _ => by rw [hsum, max_eq_left (Nat.le_of_not_le h)]⟩

theorem durationCreate_true (ps : List (MeanVari K)) (s : K) :
    durationCreate ps s true = .ok (estimateDuration ps 0) := by
  rw [durationCreate]; exact if_pos rfl

/-- `DurationEstimator::create` never panics: one duration ≥ 1 per state, and at a speed other than 1
    the total is `max(round(F₁/s), number of states)`, `F₁` the total at speed 1. -/
theorem durationCreate_spec (ps : List (MeanVari K)) (s : K) (b : Bool) :
    ∃ d, durationCreate ps s b = .ok d ∧ d.length = ps.length ∧ (∀ x ∈ d, 1 ≤ x) ∧
      (b = false → ps ≠ [] →
        d.sum = max (RoundNat.roundMax1 (((estimateDuration ps (0 : K)).sum : K) / s)) ps.length) := by
  cases b with
  | true =>
    exact ⟨_, durationCreate_true ps s, estimateDuration_length ps 0, estimateDuration_pos ps 0,
      fun h => nomatch h⟩
  | false =>
    obtain ⟨d, hd, hl, hp, -, hs⟩ := estimateWithFrameLength_spec ps (((estimateDuration ps 0).sum : K) / s)
    exact ⟨d, by rw [durationCreate]; exact (if_neg Bool.false_ne_true).trans hd, hl, hp, fun _ => hs⟩

theorem durationCreate_ok_spec {ps : List (MeanVari K)} {s : K} {b : Bool} {d : List Nat}
    (h : durationCreate ps s b = .ok d) : d.length = ps.length ∧ (∀ x ∈ d, 1 ≤ x) ∧
      (b = false → ps ≠ [] →
        d.sum = max (RoundNat.roundMax1 (((estimateDuration ps (0 : K)).sum : K) / s)) ps.length) := by
  obtain ⟨d', h', hr⟩ := durationCreate_spec ps s b
  obtain rfl := Outcome.ok.inj (h.symm.trans h')
  exact hr

end Jb
