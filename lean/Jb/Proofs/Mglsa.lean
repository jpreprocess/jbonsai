/-
  The MGLSA filter (`mglsaDff`, `mglsaDf` of `Jb/Model/Vocoder.lean`) with frozen coefficients `c`: one section in
  closed form (`mglsaDff_step`: the in-place loop computes `dffG`, the shift moves it down one cell), the filter as the
  `stage`-fold iteration of one section over a signal (`mglsaRun_sections`), and from these: one section is linear in
  (state, input), so the filter from rest is linear, time-invariant and the convolution with its pulse response.
-/
import Jb.Proofs.Signal

namespace Jb

variable {K : Type} [Field K]

/-- run the `stage`-section MGLSA filter over a signal with frozen coefficients -/
def mglsaRun (alpha : K) (c : List K) : List (List K) → List K → List K
  | _, [] => []
  | ds, x :: xs => let r := mglsaDf ds x alpha c; r.1 :: mglsaRun alpha c r.2 xs

/-- the zero state of `MelGeneralizedLogSpectrumApproximation::new(stage, c_len)` -/
def mglsaInit (stage clen : Nat) : List (List K) := List.replicate stage (List.replicate clen 0)

/-- one iteration of the `dff` loop -/
def dffStep (d : List K) (alpha : K) (c : List K) (acc : K × List K × K) (i0 : Nat) : K × List K × K :=
  let i := i0 + 1
  let (y, rev, prevNew) := acc
  let di := d.getD i 0 + alpha * (d.getD (i + 1) 0 - prevNew)
  (y + di * c.getD (i + 1) 0, di :: rev, di)

/-- the shift after the `dff` loop -/
def dffOut (d0 : K) (d : List K) (alpha : K) (n : Nat) (x' : K) (rev : List K) : List K :=
  let dmid := d0 :: rev.reverse ++ d.drop (n - 1)
  (alpha * d0 + (1 - alpha * alpha) * x') :: (dmid.take (n - 1)) ++ dmid.drop n

theorem mglsaDff_cons (d0 : K) (dt : List K) (x alpha : K) (c : List K) :
    mglsaDff (d0 :: dt) x alpha c =
      (let r := (List.range (c.length - 2)).foldl (dffStep (d0 :: dt) alpha c) (d0 * c.getD 1 0, [], d0)
       (x - r.1, if c.length = 0 then d0 :: dt else dffOut d0 (d0 :: dt) alpha c.length (x - r.1) r.2.1)) := rfl

/-- the values `d'[i]` computed by the in-place loop of `dff` (`d'[0] = d[0]`) -/
def dffG (d : List K) (alpha : K) : Nat → K
  | 0 => d.getD 0 0
  | i + 1 => d.getD (i + 1) 0 + alpha * (d.getD (i + 2) 0 - dffG d alpha i)

theorem foldl_dffStep_G (d : List K) (alpha : K) (c : List K) (m : Nat) :
    (List.range m).foldl (dffStep d alpha c) (d.getD 0 0 * c.getD 1 0, [], d.getD 0 0) =
      ((Finset.range (m + 1)).sum fun i => dffG d alpha i * c.getD (i + 1) 0,
        ((List.range m).map fun i => dffG d alpha (i + 1)).reverse, dffG d alpha m) := by
  revert m
  refine foldl_range_eq _ _ _ ?_ fun m => ?_
  · simp only [zero_add, Finset.sum_range_one, dffG, List.range_zero, List.map_nil, List.reverse_nil]
  · simp only [dffStep, List.range_succ, List.map_append, List.map_cons, List.map_nil, List.reverse_append,
      List.reverse_cons, List.reverse_nil, List.nil_append, List.singleton_append]
    rw [Finset.sum_range_succ _ (m + 1)]
    rfl

theorem dffOut_of_length (d0 : K) (d : List K) (alpha : K) (x' : K) (rev : List K) (h : rev.length + 2 = d.length) :
    dffOut d0 d alpha d.length x' rev = (alpha * d0 + (1 - alpha * alpha) * x') :: d0 :: rev.reverse := by
  have h1 : (d0 :: rev.reverse).length = d.length - 1 := by
    rw [List.length_cons, List.length_reverse, ← h]; rfl
  have h2 : (d0 :: rev.reverse ++ d.drop (d.length - 1)).length ≤ d.length := by
    rw [List.length_append, h1, List.length_drop]; omega
  simp only [dffOut]
  rw [List.take_left' h1, List.drop_eq_nil_of_le h2, List.append_nil]

/-- one sample of a section in closed form: the loop computes `dffG`, the shift moves it down one cell -/
theorem mglsaDff_step (d : List K) (x alpha : K) (c : List K) (hd : d.length = c.length) (hc : 2 ≤ c.length) :
    mglsaDff d x alpha c =
      (x - (Finset.range (c.length - 1)).sum fun i => dffG d alpha i * c.getD (i + 1) 0,
        (alpha * d.getD 0 0 + (1 - alpha * alpha) *
            (x - (Finset.range (c.length - 1)).sum fun i => dffG d alpha i * c.getD (i + 1) 0)) ::
          (List.range (c.length - 1)).map (dffG d alpha)) := by
  obtain ⟨m, hm⟩ : ∃ m, c.length = m + 2 := ⟨c.length - 2, by omega⟩
  rw [hm] at hd
  rw [hm, show m + 2 - 1 = m + 1 from rfl]
  cases d with
  | nil => cases hd
  | cons d0 dt =>
    have h := foldl_dffStep_G (d0 :: dt) alpha c m
    rw [List.getD_cons_zero] at h
    rw [mglsaDff_cons, hm, Nat.add_sub_cancel, h]
    dsimp only
    rw [if_neg (Nat.succ_ne_zero _), ← hd, dffOut_of_length _ _ _ _ _ (by simp [hd]), List.reverse_reverse,
      List.range_succ_eq_map, List.map_cons, List.map_map]
    rfl

theorem mglsaDff_length (d : List K) (x alpha : K) (c : List K) (hd : d.length = c.length) (hc : 2 ≤ c.length) :
    (mglsaDff d x alpha c).2.length = c.length := by
  rw [mglsaDff_step d x alpha c hd hc, List.length_cons, List.length_map, List.length_range]
  omega

theorem mglsaDff_getD_succ (d : List K) (x alpha : K) (c : List K) (hd : d.length = c.length) (hc : 2 ≤ c.length)
    (j : Nat) (hj : j + 1 < c.length) : (mglsaDff d x alpha c).2.getD (j + 1) 0 = dffG d alpha j := by
  rw [mglsaDff_step d x alpha c hd hc, List.getD_cons_succ, getD_map_range _ (by omega)]

/-- one step of the fold over the sections -/
def dfStep (alpha : K) (c : List K) (acc : K × List (List K)) (d : List K) : K × List (List K) :=
  ((mglsaDff d acc.1 alpha c).1, acc.2 ++ [(mglsaDff d acc.1 alpha c).2])

theorem mglsaDf_fold (ds : List (List K)) (x alpha : K) (c : List K) :
    mglsaDf ds x alpha c = ds.foldl (dfStep alpha c) (x, []) := rfl

theorem foldl_dfStep_acc (alpha : K) (c : List K) (ds : List (List K)) (x : K) (out : List (List K)) :
    ds.foldl (dfStep alpha c) (x, out) =
      ((ds.foldl (dfStep alpha c) (x, [])).1, out ++ (ds.foldl (dfStep alpha c) (x, [])).2) := by
  induction ds generalizing x out with
  | nil => simp
  | cons d ds ih =>
    simp only [List.foldl_cons, dfStep]
    rw [ih _ (out ++ _), ih _ ([] ++ _)]
    simp

theorem mglsaDf_nil (x alpha : K) (c : List K) : mglsaDf ([] : List (List K)) x alpha c = (x, []) := rfl

theorem mglsaDf_cons (d : List K) (ds : List (List K)) (x alpha : K) (c : List K) :
    mglsaDf (d :: ds) x alpha c =
      ((mglsaDf ds (mglsaDff d x alpha c).1 alpha c).1,
        (mglsaDff d x alpha c).2 :: (mglsaDf ds (mglsaDff d x alpha c).1 alpha c).2) := by
  simp only [mglsaDf_fold, List.foldl_cons]
  rw [foldl_dfStep_acc]
  simp [dfStep]

theorem mglsaRun_nil (alpha : K) (c : List K) (xs : List K) : mglsaRun alpha c [] xs = xs := by
  induction xs with
  | nil => rfl
  | cons x xs ih => simp only [mglsaRun, mglsaDf_nil, ih]

/-- the sections interact only through the signal: the first section can be run on its own -/
theorem mglsaRun_cons (alpha : K) (c : List K) (d : List K) (ds : List (List K)) (xs : List K) :
    mglsaRun alpha c (d :: ds) xs = mglsaRun alpha c ds (dffRun alpha c d xs) := by
  induction xs generalizing d ds with
  | nil => rfl
  | cons x xs ih => simp only [mglsaRun, dffRun, mglsaDf_cons, ih]

theorem mglsaRun_sections (alpha : K) (c : List K) (stage : Nat) (xs : List K) :
    mglsaRun alpha c (mglsaInit stage c.length) xs = (dffRun alpha c (List.replicate c.length 0))^[stage] xs := by
  induction stage generalizing xs with
  | zero => exact mglsaRun_nil alpha c xs
  | succ n ih =>
    rw [mglsaInit, List.replicate_succ, mglsaRun_cons, ← mglsaInit, ih, Function.iterate_succ_apply]

theorem mglsaDff_short (d : List K) (x alpha : K) (c : List K) (hc : c.length < 2) :
    (mglsaDff d x alpha c).1 = x := by
  cases d with
  | nil => rfl
  | cons d0 dt =>
    have h1 : c.getD 1 0 = 0 := List.getD_eq_default _ _ (by omega)
    have h2 : c.length - 2 = 0 := by omega
    simp only [mglsaDff_cons, h1, h2, List.range_zero, List.foldl_nil, mul_zero, sub_zero]

theorem dffG_lin {a b : K} {d e g : List K} (h : Lin a b d e g) (alpha : K) (i : Nat) :
    dffG g alpha i = a * dffG d alpha i + b * dffG e alpha i := by
  induction i with
  | zero => exact h.getD 0
  | succ i ih => simp only [dffG, h.getD, ih]; ring

theorem mglsaDff_lin {a b : K} {d e g c : List K} (h : Lin a b d e g) (hg : g.length = c.length) (hc : 2 ≤ c.length)
    (x y alpha : K) :
    (mglsaDff g (a * x + b * y) alpha c).1 = a * (mglsaDff d x alpha c).1 + b * (mglsaDff e y alpha c).1 ∧
      Lin a b (mglsaDff d x alpha c).2 (mglsaDff e y alpha c).2 (mglsaDff g (a * x + b * y) alpha c).2 := by
  rw [mglsaDff_step g _ alpha c hg hc, mglsaDff_step d x alpha c (h.length.1.trans hg) hc,
    mglsaDff_step e y alpha c (h.length.2.trans hg) hc]
  have hy : a * x + b * y - ∑ i ∈ Finset.range (c.length - 1), dffG g alpha i * c.getD (i + 1) 0 =
      a * (x - ∑ i ∈ Finset.range (c.length - 1), dffG d alpha i * c.getD (i + 1) 0) +
        b * (y - ∑ i ∈ Finset.range (c.length - 1), dffG e alpha i * c.getD (i + 1) 0) := by
    simp only [dffG_lin h, add_mul, Finset.sum_add_distrib, mul_assoc, ← Finset.mul_sum]
    ring
  exact ⟨hy, .cons (by rw [h.getD, hy]; ring) (.map (dffG_lin h alpha) _)⟩

theorem mglsaDff_rest (alpha : K) (c : List K) (hc : 2 ≤ c.length) :
    mglsaDff (List.replicate c.length 0) 0 alpha c = (0, List.replicate c.length 0) := by
  -- as `fir_rest`: a linear step maps 0 to 0
  have h := mglsaDff_lin (Rel₃.replicate (by ring : (0 : K) = 0 * 0 + 0 * 0) c.length) (by simp) hc 0 0 alpha
  simp only [mul_zero, add_zero, zero_mul] at h
  exact Prod.ext h.1 (by rw [h.2.zero_eq, mglsaDff_length _ 0 alpha c List.length_replicate hc])

theorem dffRun_isLTI (alpha : K) (c : List K) : IsLTI (dffRun alpha c (List.replicate c.length 0)) := by
  by_cases hc : 2 ≤ c.length
  · exact IsLTI.of_step (f := fun d x => mglsaDff d x alpha c) (fun _ => rfl) (fun _ _ _ => rfl)
      (L := fun a b d e g => Lin a b d e g ∧ g.length = c.length)
      (fun x y h => ⟨(mglsaDff_lin h.1 h.2 hc x y alpha).1, (mglsaDff_lin h.1 h.2 hc x y alpha).2,
        mglsaDff_length _ _ alpha c h.2 hc⟩) _
      (fun a b => ⟨.replicate (by ring) _, by simp⟩) (mglsaDff_rest alpha c hc)
  · have e : dffRun alpha c (List.replicate c.length 0) = id := by
      funext xs
      generalize List.replicate c.length (0 : K) = d
      induction xs generalizing d with
      | nil => rfl
      | cons x xs ih => simp only [dffRun, mglsaDff_short _ _ _ _ (by omega : c.length < 2), ih, id]
    rw [e]
    exact IsLTI.id

theorem mglsaRun_isLTI (alpha : K) (c : List K) (stage : Nat) :
    IsLTI (mglsaRun alpha c (mglsaInit stage c.length)) := by
  have e : mglsaRun alpha c (mglsaInit stage c.length) = (dffRun alpha c (List.replicate c.length 0))^[stage] :=
    funext (mglsaRun_sections alpha c stage)
  rw [e]
  exact (dffRun_isLTI alpha c).iterate stage

def mglsaPulse (alpha : K) (c : List K) (stage len : Nat) : List K :=
  mglsaRun alpha c (mglsaInit stage c.length) ((List.range len).map fun i => if i = 0 then 1 else 0)

/-! ### over the scalar context of `Jb/Props` -/

section
variable [LinearOrder K] [IsStrictOrderedRing K] [Transc K] [Consts K]
set_option linter.unusedSectionVars false

theorem mglsaDff_nil (x alpha : K) (c : List K) : mglsaDff ([] : List K) x alpha c = (x, []) := rfl

theorem mglsaDf_eq (ds : List (List K)) (x alpha : K) (c : List K) :
    mglsaDf ds x alpha c = ds.foldl (dfStep alpha c) (x, []) := mglsaDf_fold ds x alpha c

end

end Jb
