/-
  The mixed-excitation ring buffer of `Jb/Model/Vocoder.lean` (`excGet`) is an overlap-add convolver:
  every sample adds a length-L contribution vector to the buffer, emits slot 0 and shifts. Hence the
  excitation is `y[n] = Σ_{i<L} contrib_{n−i}[i]`, which for `contrib_n[i] = pulse_n·h[i] + noise_n·(δ_{i,c} − h[i])`
  is `h * pulses + (δ − h) * noise`: tap `i` of a contribution comes out `i` samples later, and there is no other
  delay (centre tap `c = (L−1)/2`).  The convolution is stated of `ringRun` on any contribution vectors (`ringRun_conv`)
  and `excGet` is tied to `ringStep` one sample at a time (`excGet_is_ringStep`); no theorem iterates `excGet`.
-/
import Jb.Proofs.Excitation
import Jb.Proofs.ListAux
import Mathlib.Algebra.BigOperators.Intervals

namespace Jb

section
variable {K : Type} [Field K]

/-- one sample of an overlap-add buffer: add `contrib`, emit slot 0, shift, clear the new last slot -/
def ringStep (ring contrib : List K) : K × List K :=
  let r := (ring.zip contrib).map fun (a, b) => a + b
  (r.getD 0 0, r.drop 1 ++ [0])

def ringRun : List K → List (List K) → List K
  | _, [] => []
  | ring, c :: cs => let r := ringStep ring c; r.1 :: ringRun r.2 cs

theorem zipAdd_getD (r c : List K) (h : r.length = c.length) (k : Nat) :
    ((r.zip c).map fun (a, b) => a + b).getD k 0 = r.getD k 0 + c.getD k 0 := by
  rcases Nat.lt_or_ge k r.length with hk | hk
  · simp [List.getD_eq_getElem?_getD, hk, h ▸ hk]
  · rw [List.getD_eq_default r _ hk, List.getD_eq_default c _ (h ▸ hk),
      List.getD_eq_default _ _ (by simp [← h, hk]), add_zero]

/-- `[0]` is `List.replicate 1 0` by definition, which `rw` does not see -/
theorem shift_getD (l : List K) (k : Nat) : (l.drop 1 ++ [0]).getD k 0 = l.getD (k + 1) 0 :=
  getD_drop_append_replicate l 1 1 k 0

theorem ringStep_snd_length (r c : List K) (h : r.length = c.length) (hL : 1 ≤ r.length) :
    (ringStep r c).2.length = r.length := by
  simp only [ringStep, List.length_append, List.length_drop, List.length_map, List.length_zip, ← h,
    Nat.min_self, List.length_cons, List.length_nil]
  omega

theorem ringRun_getD (L : Nat) (hL : 1 ≤ L) (contribs : List (List K))
    (hc : ∀ c ∈ contribs, c.length = L) (r0 : List K) (hr : r0.length = L)
    (n : Nat) (hn : n < contribs.length) :
    (ringRun r0 contribs).getD n 0 =
      r0.getD n 0 + ∑ m ∈ Finset.range (n + 1), (contribs.getD m []).getD (n - m) 0 := by
  induction contribs generalizing r0 n with
  | nil => cases hn
  | cons c cs ih =>
    have hcl : r0.length = c.length := hr.trans (hc c List.mem_cons_self).symm
    cases n with
    | zero =>
      rw [Finset.sum_range_one]
      exact zipAdd_getD r0 c hcl 0
    | succ n =>
      rw [Finset.sum_range_succ']
      simp only [ringRun, List.getD_cons_succ, List.getD_cons_zero, Nat.succ_sub_succ, Nat.sub_zero]
      rw [ih (fun c' h => hc c' (List.mem_cons_of_mem _ h)) _
        ((ringStep_snd_length r0 c hcl (hr ▸ hL)).trans hr) n (Nat.lt_of_succ_lt_succ hn)]
      simp only [ringStep]
      rw [shift_getD, zipAdd_getD r0 c hcl]
      ring

end

section
set_option linter.unusedSectionVars false
variable {K : Type} [Field K] [LinearOrder K] [IsStrictOrderedRing K] [Transc K] [Consts K]

/-- **Overlap-add = convolution**: from an empty buffer, `y[n] = Σ_{i<L, i≤n} contrib_{n−i}[i]` -/
theorem ringRun_conv (L : Nat) (hL : 1 ≤ L) (contribs : List (List K)) (hc : ∀ c ∈ contribs, c.length = L)
    (n : Nat) (hn : n < contribs.length) :
    (ringRun (List.replicate L 0) contribs).getD n 0 =
      (Finset.range L).sum fun i => if i ≤ n then (contribs.getD (n - i) []).getD i 0 else 0 := by
  -- taps `i ≥ L` of a length-`L` contribution read as 0
  have hzero : ∀ i, i ≤ n → (contribs.getD (n - i) []).getD i 0 ≠ 0 → i < L := fun i hi hne => by
    by_contra hL'
    have hlt : n - i < contribs.length := by omega
    refine hne (List.getD_eq_default _ _ ?_)
    rw [List.getD_eq_getElem?_getD, List.getElem?_eq_getElem hlt, Option.getD_some,
      hc _ (List.getElem_mem hlt)]
    exact not_lt.mp hL'
  rw [ringRun_getD L hL contribs hc _ List.length_replicate n hn, getD_replicate_default, zero_add]
  -- reindex `i = n − m` …
  rw [← Finset.sum_range_reflect]
  have hre : ∀ i ∈ Finset.range (n + 1),
      (contribs.getD (n + 1 - 1 - i) []).getD (n - (n + 1 - 1 - i)) 0 = (contribs.getD (n - i) []).getD i 0 :=
    fun i hi => by rw [Nat.add_sub_cancel, Nat.sub_sub_self (Nat.lt_succ_iff.mp (Finset.mem_range.mp hi))]
  rw [Finset.sum_congr rfl hre]
  -- … and both sides are the sum over `i ≤ n`, `i < L`
  rw [← Finset.sum_filter, ← Finset.sum_filter_of_ne (p := (· < L))
    fun i hi => hzero i (Nat.lt_succ_iff.mp (Finset.mem_range.mp hi))]
  exact Finset.sum_congr (by ext i; simp only [Finset.mem_filter, Finset.mem_range]; omega) fun _ _ => rfl

end

section
variable {K : Type} [Field K]

/-- the contribution `excGet` makes in a voiced sample with noise `ν`, pulse `π` and low-pass `h` -/
def voicedContrib (L : Nat) (noise pulse : K) (h : List K) : List K :=
  (List.range L).map fun i => noise * ((if i = (L - 1) / 2 then 1 else 0) - h.getD i 0) + pulse * h.getD i 0

/-- the contribution in an unvoiced sample: the noise at the centre tap -/
def unvoicedContrib (L : Nat) (noise : K) : List K :=
  (List.range L).map fun i => if i = (L - 1) / 2 then noise else 0

theorem unvoiced_ring (ring : List K) (noise : K) :
    ring.set ((ring.length - 1) / 2) (ring.getD ((ring.length - 1) / 2) 0 + noise) =
      (ring.zip (unvoicedContrib ring.length noise)).map fun (a, b) => a + b := by
  refine List.ext_getElem ?_ fun i h1 h2 => ?_
  · simp only [unvoicedContrib, List.length_set, List.length_map, List.length_zip, List.length_range, Nat.min_self]
  rw [List.length_set] at h1
  simp only [unvoicedContrib, List.getElem_set, List.getElem_map, List.getElem_zip, List.getElem_range]
  split_ifs with hc hc' hc'
  · rw [List.getD_eq_getElem?_getD, List.getElem?_eq_getElem (hc ▸ h1), Option.getD_some]; simp only [hc]
  · exact absurd hc.symm hc'
  · exact absurd hc'.symm hc
  · rw [add_zero]

variable [LinearOrder K]

theorem ite_isZeroS_eq (x : K) (a b : List K) (h : x = 0 → a = b) :
    (if isZeroS x then a else b) = b := by
  split_ifs with hz
  · exact h ((isZeroS_iff x).1 hz)
  · rfl

theorem voiced_ring (ring lpf : List K) (hlen : lpf.length = ring.length) (noise pulse : K) :
    let n := ring.length
    let center := (n - 1) / 2
    let r1 := if isZeroS noise then ring else
      (List.range n).zip (ring.zip lpf) |>.map fun (i, (b, h)) =>
        if i = center then b + noise * (1 - h) else b + noise * (0 - h)
    let r1' := if r1.length = n then r1 else ring
    let r2 := if isZeroS pulse then r1' else (r1'.zip lpf).map fun (b, h) => b + pulse * h
    let r2' := if r2.length = n then r2 else r1'
    r2' = (ring.zip (voicedContrib n noise pulse lpf)).map fun (a, b) => a + b := by
  intro n center r1 r1' r2 r2'
  -- a pass with factor 0 changes nothing, so both `isZeroS` shortcuts can be read as the general branch
  have hr1 : r1 = ((List.range n).zip (ring.zip lpf)).map fun (i, (b, h)) =>
      if i = center then b + noise * (1 - h) else b + noise * (0 - h) := by
    refine ite_isZeroS_eq _ _ _ fun h0 => List.ext_getElem ?_ fun i h1 h2 => ?_
    · simp only [List.length_map, List.length_zip, List.length_range, hlen, Nat.min_self, n]
    · simp only [h0, zero_mul, add_zero, ite_self, List.getElem_map, List.getElem_zip]
  have hl1 : r1.length = n := by
    simp only [hr1, List.length_map, List.length_zip, List.length_range, hlen, Nat.min_self, n]
  have hr1' : r1' = r1 := if_pos hl1
  have hr2 : r2 = (r1.zip lpf).map fun (b, h) => b + pulse * h := by
    rw [← hr1']
    refine ite_isZeroS_eq _ _ _ fun h0 => List.ext_getElem ?_ fun i h1 h2 => ?_
    · simp only [hr1', List.length_map, List.length_zip, hl1, hlen, Nat.min_self, n]
    · simp only [h0, zero_mul, add_zero, List.getElem_map, List.getElem_zip]
  have hl2 : r2.length = n := by
    simp only [hr2, List.length_map, List.length_zip, hl1, hlen, Nat.min_self, n]
  have hr2' : r2' = r2 := if_pos hl2
  rw [hr2', hr2]
  refine List.ext_getElem ?_ fun i h1 h2 => ?_
  · simp only [voicedContrib, List.length_map, List.length_zip, List.length_range, hl1, hlen, Nat.min_self, n]
  simp only [List.length_map, List.length_zip, hl1, hlen, Nat.min_self, n] at h1
  simp only [hr1, List.getElem_map, List.getElem_zip, List.getElem_range, voicedContrib,
    List.getD_eq_getElem?_getD, List.getElem?_eq_getElem (show i < lpf.length from hlen ▸ h1),
    Option.getD_some, center, n]
  split_ifs <;> ring

variable [Transc K]

theorem excGet_of_silent (e : ExcSt K) (lpf : List K) (hL : 1 ≤ e.ring.length) (hp : e.pitchOfCurr = 0) :
    excGet e lpf =
      let r := ringStep e.ring (unvoicedContrib e.ring.length (nrandom e.random).1)
      (r.1, { e with random := (nrandom e.random).2, ring := r.2 }) := by
  have hn : e.ring.length > 0 := hL
  unfold excGet
  simp only [hn, if_true, (isZeroS_iff _).2 hp]
  rw [unvoiced_ring]
  rfl

theorem excGet_of_voiced (e : ExcSt K) (lpf : List K) (hL : 1 ≤ e.ring.length) (hlen : lpf.length = e.ring.length)
    (hp : e.pitchOfCurr ≠ 0) :
    excGet e lpf =
      let p := pulseStep { e with random := (nrandom e.random).2 }
      let r := ringStep e.ring (voicedContrib e.ring.length (nrandom e.random).1 p.1 lpf)
      (r.1, { p.2 with pitchOfCurr := p.2.pitchOfCurr + p.2.pitchInc, ring := r.2 }) := by
  have hn : e.ring.length > 0 := hL
  have key := voiced_ring e.ring lpf hlen (nrandom e.random).1 (pulseStep { e with random := (nrandom e.random).2 }).1
  unfold excGet
  simp only [hn, if_true, isZeroS_of_ne hp, Bool.false_eq_true, if_false, pulseStep_ring]
  rw [key]
  rfl

end

section
set_option linter.unusedSectionVars false
variable {K : Type} [Field K] [LinearOrder K] [IsStrictOrderedRing K] [Transc K] [Consts K]

/-- **`excGet` is one overlap-add step** (mixed-excitation branch: buffer length `L ≥ 1`, low-pass of the
    same length). -/
theorem excGet_is_ringStep (e : ExcSt K) (lpf : List K) (hL : 1 ≤ e.ring.length) (hlen : lpf.length = e.ring.length) :
    let noise := (nrandom e.random).1
    let L := e.ring.length
    let contrib :=
      if e.pitchOfCurr = 0 then unvoicedContrib L noise
      else voicedContrib L noise (pulseStep { e with random := (nrandom e.random).2 }).1 lpf
    (excGet e lpf).1 = (ringStep e.ring contrib).1 ∧ (excGet e lpf).2.ring = (ringStep e.ring contrib).2 := by
  intro noise L contrib
  by_cases hp : e.pitchOfCurr = 0
  · rw [excGet_of_silent e lpf hL hp, show contrib = _ from if_pos hp]
    exact ⟨rfl, rfl⟩
  · rw [excGet_of_voiced e lpf hL hlen hp, show contrib = _ from if_neg hp]
    exact ⟨rfl, rfl⟩

end

end Jb
