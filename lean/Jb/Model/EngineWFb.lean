/-
  A computable form of the well-formedness hypothesis of C01's totality theorem (`EngineWF`, `Jb/Proofs/Total.lean`):
  import-free, so that the driver can evaluate it on the very stage inputs of every pipeline case and record whether the
  case lies inside the theorem's hypothesis class. `Jb/Proofs/Total.lean` proves `engineWFb c inp = true → EngineWF c inp`.
-/
import Jb.Model.Engine

namespace Jb

/-- `StreamWF` (at least one window; every state carries `vectorLength × #windows` Gaussians), the stream has one state per
    duration Gaussian, and a GV switch — if there is one — covers every state -/
def streamWFb {α : Type} (nstates : Nat) (s : StreamIn α) : Bool :=
  decide (1 ≤ s.windows.length) &&
  s.stream.all (fun st => decide (s.vectorLength * s.windows.length ≤ st.params.length)) &&
  decide (s.stream.length = nstates) &&
  (match s.gv with
   | none => true
   | some (_, sw) => decide (nstates ≤ sw.length))

def engineWFb {α : Type} (c : Condition α) (inp : EngineIn α) : Bool :=
  (inp.nstream == 2 || inp.nstream == 3) &&
  decide (inp.streams.length = inp.nstream) &&
  inp.streams.all (streamWFb inp.duration.length) &&
  (match inp.streams[1]? with | some s => s.vectorLength == 1 | none => true) &&
  (match inp.streams[2]? with | some s => s.vectorLength % 2 == 1 | none => true) &&
  decide (inp.nstream ≤ c.gvWeight.length) &&
  decide (inp.nstream ≤ c.msdThreshold.length) &&
  (!c.alignment || (decide (0 < inp.nstate) && decide (inp.duration.length = inp.times.length * inp.nstate)))

end Jb
