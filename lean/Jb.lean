-- Root of the `Jb` library: the executable model and every property module.
import Jb.Model.Scalar
import Jb.Model.Condition
import Jb.Props.C20
import Jb.Model.Duration
import Jb.Model.Speech
import Jb.Model.Weights
import Jb.Props.C02
import Jb.Props.C08
import Jb.Props.C09
import Jb.Model.Mlpg
import Jb.Model.Vocoder
import Jb.Props.C19
import Jb.Props.C10
import Jb.Props.C05
import Jb.Props.C07
import Jb.Model.Engine
import Jb.Props.C06
import Jb.Props.C13
import Jb.Props.C14
import Jb.Props.C16
import Jb.Model.Label
import Jb.Proofs.Label
import Jb.Props.C01
import Jb.Props.C11
import Jb.Props.C12
import Jb.Props.C15
import Jb.Props.C17
import Jb.Props.C03
import Jb.Model.HtsParse
import Jb.Props.C04
import Jb.Props.C18
import Jb.Proofs.Outcome
import Jb.Proofs.MlpgShape
import Jb.Proofs.MlpgShapeCex
import Jb.Proofs.MlpgMain
import Jb.Proofs.HalfTone
import Jb.Proofs.GvShift
import Jb.Proofs.HmmObj
import Jb.Proofs.Lti
import Jb.Proofs.Shift
import Jb.Proofs.Total
import Jb.Proofs.Energy
import Jb.Proofs.MlpgMl
import Jb.Proofs.SynthLemmas
import Jb.Proofs.SynthTotal
import Jb.Proofs.ParseShape
import Jb.Proofs.RoundTrip
import Jb.Proofs.SynthBridge
import Jb.Model.EngineWFb
import Jb.Proofs.VoiceSetCompat
import Jb.Props.C08Lib
import Jb.Props.C02Lib
import Jb.Model.Supported
import Jb.Proofs.Supported
import Jb.Proofs.LspPoly
import Jb.Proofs.Ring
import Jb.Proofs.BandLdl
import Jb.Proofs.ListAux
import Jb.Proofs.Gv
import Jb.Proofs.Assemble
import Jb.Proofs.MlsaLinear
import Jb.Model.Synth
